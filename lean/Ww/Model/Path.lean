/-!
# Paths as segment lists; Go's `path.Clean` for rooted paths

Segments are the primary representation (`List (List Char)`); strings are split on '/' and joined back.
-/
namespace Ww.Model

abbrev Seg := List Char

/-- strings.Split(s, "/") -/
def splitSlash : List Char → List Seg
  | [] => [[]]
  | c :: cs =>
    match splitSlash cs with
    | [] => [[]]                      -- unreachable: splitSlash never returns []
    | s :: ss => if c = '/' then [] :: s :: ss else (c :: s) :: ss

def joinSlash : List Seg → List Char
  | [] => []
  | [s] => s
  | s :: ss => s ++ '/' :: joinSlash ss

def dot : Seg := ['.']
def dotdot : Seg := ['.', '.']

/-- the stack machine of `path.Clean` on a ROOTED path: drop empty and "." segments, ".." pops (at the root: dropped) -/
def cleanSegs (acc : List Seg) : List Seg → List Seg
  | [] => acc.reverse
  | s :: rest =>
    if s = [] ∨ s = dot then cleanSegs acc rest
    else if s = dotdot then cleanSegs acc.tail rest
    else cleanSegs (s :: acc) rest

/-- `path.Clean("/" ++ p)` as segments (no leading empty segment); [] stands for "/" -/
def cleanRooted (p : List Char) : List Seg := cleanSegs [] (splitSlash p)

/-- the cleaned path as a string: "/" ++ a/b/c -/
def cleanRootedStr (p : List Char) : List Char := '/' :: joinSlash (cleanRooted p)

def isDotSeg (s : Seg) : Bool := s = [] || s = dot || s = dotdot

/-- what is left after cleaning was on the stack already, or is a segment of the input other than "", "." and ".." -/
theorem cleanSegs_sub (acc segs : List Seg) (s : Seg) (h : s ∈ cleanSegs acc segs) : s ∈ acc ∨ s ∈ segs ∧ isDotSeg s = false := by
  fun_induction cleanSegs acc segs with
  | case1 acc => exact .inl (List.mem_reverse.mp h)
  | case2 acc x rest _ ih => exact (ih h).imp id (.imp (List.mem_cons_of_mem _) id)
  | case3 acc rest _ ih => exact (ih h).imp List.mem_of_mem_tail (.imp (List.mem_cons_of_mem _) id)
  | case4 acc x rest h1 h2 ih =>
    rcases ih h with h | h
    · rcases List.mem_cons.mp h with rfl | h
      · exact .inr ⟨List.mem_cons_self, by simpa [isDotSeg, h2] using h1⟩
      · exact .inl h
    · exact .inr (h.imp (List.mem_cons_of_mem _) id)

theorem cleanSegs_mem (acc segs : List Seg) (s : Seg) (h : s ∈ cleanSegs acc segs) : s ∈ acc ∨ s ∈ segs :=
  (cleanSegs_sub acc segs s h).imp id And.left

/-- a cleaned path contains no empty, "." or ".." segment -/
theorem cleanSegs_nodot (acc segs : List Seg) (hacc : ∀ s ∈ acc, isDotSeg s = false) :
    ∀ s ∈ cleanSegs acc segs, isDotSeg s = false :=
  fun s h => (cleanSegs_sub acc segs s h).elim (hacc s) And.right

theorem cleanRooted_nodot (p : List Char) : ∀ s ∈ cleanRooted p, isDotSeg s = false :=
  cleanSegs_nodot [] _ (by simp)

/-- all suffixes of a list, longest first -/
def suffixes : List α → List (List α)
  | [] => [[]]
  | a :: as => (a :: as) :: suffixes as

theorem mem_suffixes {α} (s l : List α) : s ∈ suffixes l ↔ ∃ pre, pre ++ s = l := by
  induction l with
  | nil => simp [suffixes]
  | cons a as ih =>
    simp only [suffixes, List.mem_cons, ih]
    constructor
    · rintro (rfl | ⟨pre, rfl⟩)
      · exact ⟨[], rfl⟩
      · exact ⟨a :: pre, rfl⟩
    · rintro ⟨_ | ⟨b, pre⟩, h⟩
      · exact .inl h
      · exact .inr ⟨pre, (List.cons.inj h).2⟩

/-- the form in which the matchers of `Ww.Model.Glob` use `suffixes`: some way of cutting `l` in two leaves a rest that `f` accepts -/
theorem any_suffixes {α} (f : List α → Bool) (l : List α) : (suffixes l).any f = true ↔ ∃ pre s, l = pre ++ s ∧ f s = true := by
  simp only [List.any_eq_true, mem_suffixes]
  exact ⟨fun ⟨s, ⟨pre, h⟩, hf⟩ => ⟨pre, s, h.symm, hf⟩, fun ⟨pre, s, h, hf⟩ => ⟨s, ⟨pre, h.symm⟩, hf⟩⟩

end Ww.Model
