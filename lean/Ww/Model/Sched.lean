/-!
# Small-step interleaving model of concurrent requests on ONE session

Anchors: pkg/session/session_manager.go (Refresh, GetOrRefresh, update, Delete*), pkg/session/store_redis.go (Read, Update = SET … XX KEEPTTL,
Delete), pkg/session/lock.go + bsm/redislock (obtain = SET NX PX, release = delete-if-token-matches), pkg/handler/handler.go (logout variants).

One transition = one store command, one lock script or one provider call of ONE process — exactly the scheduling points of the harness
executor. Any number of processes, any schedule. The clock does not move inside a schedule except through `leaseExpires` (lock lease expiry);
a token pair refreshed inside the schedule is therefore on cooldown for the rest of it (`fresh`).
-/
namespace Ww.Model.Sched

abbrev Pid := Nat

inductive Kind where
  | refresh        -- POST /oauth2/session/refresh
  | proxy          -- proxied request with automatic refresh due
  | info           -- GET /oauth2/session (read only)
  | logoutLocal
  | logout
  | frontchannel   -- front-channel logout for this session's sid
  | relogin        -- callback of a NEW login whose session lands on the same store key (the provider re-uses the sid, e.g. after a local logout)
  deriving Repr, DecidableEq

inductive PC where
  | start | get | lock | reread | idp | update | unlock | del | done
  | code | write   -- relogin: redeem the authorization code; write the new session (SET … EX)
  deriving Repr, DecidableEq

structure Sess where
  gen : Nat          -- generation of the (access, refresh) token pair stored
  fresh : Bool       -- refreshed during this schedule: the cooldown is running
  hasTtl : Bool      -- the key carries an expiry
  owner : Nat := 0   -- 0 = the session whose cookie every non-relogin process presents; ≠ 0 = a newer login's session under the same key
                     -- (sealed with another data key: unreadable with the old cookie, session_reader.go:getForTicket → ErrInvalid)
  deriving Repr, DecidableEq

structure Proc where
  kind : Kind
  pc : PC := .start
  rt : Nat := 0           -- generation of the refresh token read under the lock
  newGen : Nat := 0       -- generation granted by the provider, to be written
  status : Nat := 0       -- HTTP status once done
  seen : Option Nat := none    -- generation of the session as first read (before the lock): what GetOrRefresh falls back to when the refresh fails softly
  served : Option Nat := none  -- proxied request: generation of the access token the upstream was given (none = forwarded without a token / not a proxied request)
  deriving Repr, DecidableEq

structure St where
  sess : Option Sess
  lock : Option Pid
  idpCur : Nat               -- generation of the refresh token the provider currently honours
  presented : List Nat       -- refresh-token generations presented to the provider, oldest first
  procs : Pid → Proc
  base : Nat := 0            -- generation of the token pair at the start of the schedule (constant)
  createLocks : Bool := true -- session_manager.go:Create takes the per-key lock around its write (false = the tree before fix 078aa22, kept for the witness)

/-- what a holder of the OLD cookie can read: the entry, if it is still its own session -/
def mine : Option Sess → Option Sess
  | some v => if v.owner = 0 then some v else none
  | none => none

theorem mine_some {se : Option Sess} {v : Sess} (h : mine se = some v) : se = some v ∧ v.owner = 0 := by
  unfold mine at h
  split at h
  · split at h <;> simp_all
  · simp at h

def setProc (s : St) (p : Pid) (x : Proc) : St := { s with procs := fun q => if q = p then x else s.procs q }

@[simp] theorem setProc_same (s : St) (p : Pid) (x : Proc) : (setProc s p x).procs p = x := by simp [setProc]
@[simp] theorem setProc_other (s : St) (p q : Pid) (x : Proc) (h : q ≠ p) : (setProc s p x).procs q = s.procs q := by simp [setProc, h]
@[simp] theorem setProc_sess (s : St) (p : Pid) (x : Proc) : (setProc s p x).sess = s.sess := rfl
@[simp] theorem setProc_lock (s : St) (p : Pid) (x : Proc) : (setProc s p x).lock = s.lock := rfl
@[simp] theorem setProc_idpCur (s : St) (p : Pid) (x : Proc) : (setProc s p x).idpCur = s.idpCur := rfl
@[simp] theorem setProc_presented (s : St) (p : Pid) (x : Proc) : (setProc s p x).presented = s.presented := rfl
@[simp] theorem setProc_createLocks (s : St) (p : Pid) (x : Proc) : (setProc s p x).createLocks = s.createLocks := rfl
@[simp] theorem setProc_base (s : St) (p : Pid) (x : Proc) : (setProc s p x).base = s.base := rfl

/-- token handed to the upstream by a proxied request that finishes at the first read: the stored one when no refresh is due (cooldown running) -/
def servedAtGet (k : Kind) (se : Option Sess) : Option Nat :=
  match k, se with
  | .proxy, some v => if v.fresh then some v.gen else none
  | _, _ => none

theorem servedAtGet_some {k : Kind} {se : Option Sess} {g : Nat} (h : servedAtGet k se = some g) : ∃ v, se = some v ∧ v.gen = g := by
  unfold servedAtGet at h
  split at h
  · rename_i v
    split at h <;> simp_all
  · simp at h

/-- holding (or about to release) the refresh lock -/
def inCrit : PC → Bool
  | .reread | .idp | .update | .unlock | .write => true
  | _ => false

/-- first command of each kind of request -/
def startNext : Kind → PC
  | .frontchannel => .del
  | .relogin => .code
  | _ => .get

theorem startNext_outside (k : Kind) : inCrit (startNext k) = false := by cases k <;> rfl

/-- after the first read: (next pc, status if finished) -/
def getNext (k : Kind) (se : Option Sess) : PC × Nat :=
  match k, se with
  | .info, some _ => (.done, 200)
  | .info, none => (.done, 401)
  | .logoutLocal, some _ => (.del, 204)
  | .logoutLocal, none => (.done, 204)
  | .logout, some _ => (.del, 302)
  | .logout, none => (.done, 302)
  | .frontchannel, _ => (.del, 0)
  | .relogin, _ => (.done, 0)                                               -- (a relogin never reads)
  | .refresh, none => (.done, 401)
  | .proxy, none => (.done, 200)
  | .refresh, some v => if v.fresh then (.done, 200) else (.lock, 0)      -- on cooldown: nothing to refresh
  | .proxy, some v => if v.fresh then (.done, 200) else (.lock, 0)

theorem getNext_outside (k : Kind) (se : Option Sess) : inCrit (getNext k se).1 = false := by
  unfold getNext
  split <;> (repeat' split) <;> rfl

/-- one step of process `p`; returns the new state and the label of the command issued ("" = nothing to do) -/
def step (s : St) (p : Pid) : St × String :=
  let x := s.procs p
  match x.pc with
  | .start => (setProc s p { x with pc := startNext x.kind }, "START")
  | .get =>
    let n := getNext x.kind (mine s.sess)
    (setProc s p { x with pc := n.1, status := n.2, seen := (mine s.sess).map (fun v => v.gen), served := servedAtGet x.kind (mine s.sess) }, "GET session")
  | .code => (setProc s p { x with pc := if s.createLocks then .lock else .write }, "IDP authorization_code")
  | .lock =>
    match s.lock with
    | none => ({ setProc s p { x with pc := if x.kind = .relogin then .write else .reread } with lock := some p }, "LOCK")
    | some _ => (s, "LOCK")                                                                       -- not obtained: poll again
  | .write =>   -- Create: SET key value EX lifetime — replaces whatever is there; the new session has its own data key
    ({ setProc s p { x with pc := if s.createLocks then .unlock else .done, status := 302 } with sess := some { gen := 0, fresh := false, hasTtl := true, owner := p + 1 } },
      "SET-EX session")
  | .reread =>
    match mine s.sess with
    | none =>   -- gone meanwhile (ErrNotFound): the refresh fails softly and a proxied request falls back to the session it read first; replaced by a new login's
                -- session (undecryptable with this cookie's key: ErrInvalid): the request goes on WITHOUT a token
      (setProc s p { x with pc := .unlock, status := if x.kind = .proxy then 200 else 401,
                            served := if x.kind = .proxy && s.sess.isNone then x.seen else none }, "GET session")
    | some v =>
      if v.fresh then (setProc s p { x with pc := .unlock, status := 200, served := if x.kind = .proxy then some v.gen else none }, "GET session")      -- already refreshed by someone else
      else (setProc s p { x with pc := .idp, rt := v.gen }, "GET session")
  | .idp =>
    let s' := { s with presented := s.presented ++ [x.rt] }
    if x.rt = s.idpCur then ({ setProc s' p { x with pc := .update, newGen := x.rt + 1 } with idpCur := x.rt + 1 }, "IDP refresh_token")
    else (setProc s' p { x with pc := .unlock, status := 401 }, "IDP refresh_token")          -- rejected: invalid at the provider
  | .update =>
    match s.sess with
    | some v =>   -- SET XX: succeeds on ANY existing value, and what it writes is the old session sealed with the old data key
      ({ setProc s p { x with pc := .unlock, status := 200, served := if x.kind = .proxy then some x.newGen else none } with
          sess := some { v with gen := x.newGen, fresh := true, owner := 0 } }, "SETXX-KEEPTTL session")
    | none =>   -- update only if present; a proxied request falls back to the session it read first (GetOrRefresh: "falling back to existing tokens")
      (setProc s p { x with pc := .unlock, status := if x.kind = .proxy then 200 else 401, served := if x.kind = .proxy then x.seen else none }, "SETXX-KEEPTTL session")
  | .unlock =>
    ({ setProc s p { x with pc := .done } with lock := if s.lock = some p then none else s.lock }, "UNLOCK")
  | .del =>
    ({ setProc s p { x with pc := .done, status := if x.kind = .frontchannel then 200 else x.status } with sess := none }, "DEL session")
  | .done => (s, "")

/-- a process dies: it issues nothing more (its lock entry stays until the lease runs out) -/
def crash (s : St) (p : Pid) : St := setProc s p { s.procs p with pc := .done, status := 0 }

/-- the lock lease passes: a lock entry expires. Only taken when no LIVE process is inside the critical section (the property's proviso:
    a refresh completes within the lease) -/
def leaseExpires (s : St) : St := { s with lock := none }

inductive Ev where
  | run (p : Pid)
  | crash (p : Pid)
  deriving Repr, DecidableEq

def apply (s : St) : Ev → St
  | .run p => (step s p).1
  | .crash p => crash s p

def runAll (s : St) (evs : List Ev) : St := evs.foldl apply s

/-- initial state: a session of generation g0 with an expiry, nobody holds the lock, every process about to start -/
def init (kinds : Pid → Kind) (g0 : Nat) : St :=
  { sess := some { gen := g0, fresh := false, hasTtl := true }, lock := none, idpCur := g0, presented := [], procs := fun p => { kind := kinds p }, base := g0 }

end Ww.Model.Sched
