import Ww.Gen.Meta
/-!
# Big-step model of the session manager and the session-bearing handlers

Anchors: pkg/session/{session_reader,session_manager,session,ticket}.go, pkg/handler/{handler,reverseproxy}.go,
pkg/handler/acr, pkg/openid/acr, pkg/config/config.go:AutoRefreshDisabled.

All time predicates are the functions REGENERATED from pkg/session/data.go (`Ww.Gen`). The model is sequential:
one request at a time (interleavings are `Ww.Model.Sched`). Tokens are abstract strings; the provider's answer to a
refresh grant is an input (`IdpPlan`). Every definition is executable: the Go harness reports, for every step of every
history, the pre-state it read from the store, and `Driver/Sys.lean` compares the implementation's answer with these
functions.
-/
namespace Ww.Model
open Ww.Gen

inductive Mode where
  | standalone | ssoServer | ssoProxy
  deriving Repr, DecidableEq

structure Cfg where
  mode : Mode := .standalone
  forwardAuth : Bool := false
  inactivity : Int := 0          -- 0 = disabled, else the timeout in ns
  maxLifetime : Int := 3600000000000
  acr : String := ""             -- configured acr_values ("" = no requirement)
  includeIdToken : Bool := false
  autoLogin : Bool := false
  deriving Repr

def Cfg.ssoEnabled (c : Cfg) : Bool := c.mode != .standalone
/-- pkg/config/config.go:AutoRefreshDisabled -/
def Cfg.autoRefreshDisabled (c : Cfg) : Bool := c.ssoEnabled && !c.forwardAuth

/-- what the session cookie presented by the request amounts to -/
inductive CookieSt where
  | none            -- no session cookie
  | valid           -- decrypts under the deployment key to a ticket
  | undecryptable   -- not base64 / not a ciphertext of this deployment
  deriving Repr, DecidableEq

/-- the store entry under the ticket's key, as seen through the ticket's data key -/
inductive StoreSt where
  | absent
  | present (d : Data)
  | undecryptable
  deriving Repr, DecidableEq

inductive SessErr where
  | notFound | invalid | inactive | invalidExternal | other
  deriving Repr, DecidableEq

/-- answer of the identity provider to the refresh grant issued in this step (an input of the model) -/
inductive IdpPlan where
  | ok (expiresIn : Int)     -- 200 with a new access/refresh token pair, expires_in seconds
  | clientErr                -- HTTP 4xx
  | serverErr                -- HTTP 5xx for the whole retry budget
  | broken                   -- unusable answer (non-JSON 200, connection error)
  deriving Repr, DecidableEq

/-- pkg/openid/acr.Validate -/
def acrTranslate (s : String) : String :=
  if s = "Level3" then "idporten-loa-substantial" else if s = "Level4" then "idporten-loa-high" else s

def acrValid (expected actual : String) : Bool :=
  let e := acrTranslate expected
  if e = "idporten-loa-substantial" then actual = "idporten-loa-substantial" || actual = "idporten-loa-high"
  else if e = "idporten-loa-high" then actual = "idporten-loa-high"
  else e = actual

/-- result of Reader.Get: the session may accompany an error (Validate failures return both) -/
structure GetRes where
  err : Option SessErr
  sess : Option Data
  deriving Repr, DecidableEq

def validateErr (d : Data) (now : Int) : Option SessErr :=
  match d.Validate now with
  | [] => none
  | l => if l.contains "ErrInactive" then some .inactive else some .invalid

/-- session_reader.go: Get = getTicket; getForTicket -/
def getSess (ck : CookieSt) (st : StoreSt) (now : Int) : GetRes :=
  match ck with
  | .none => ⟨some .notFound, none⟩
  | .undecryptable => ⟨some .invalid, none⟩
  | .valid =>
    match st with
    | .absent => ⟨some .notFound, none⟩
    | .undecryptable => ⟨some .invalid, none⟩
    | .present d => ⟨validateErr d now, some d⟩

/-- errors.Is(err, ErrInvalid): `inactive` wraps ErrInvalid too -/
def SessErr.isInvalid : SessErr → Bool
  | .invalid | .inactive => true
  | _ => false

/-- session.go -/
def canRefresh (d : Data) (now : Int) : Bool := d.HasRefreshToken now && !d.Metadata.IsRefreshOnCooldown now
def shouldRefresh (d : Data) (now : Int) : Bool := d.Metadata.ShouldRefresh now
def accessToken (d : Data) (now : Int) : Option String := if d.HasActiveAccessToken now then some d.AccessToken else none

structure RefreshRes where
  err : Option SessErr
  sess : Option Data
  store : StoreSt
  contacted : Bool     -- the provider's token endpoint was called
  granted : Bool       -- … and issued a new pair
  deriving Repr, DecidableEq

def applyGrant (cfg : Cfg) (d : Data) (newAt newRt : String) (expiresIn now : Int) : Data :=
  let m := d.Metadata.Refresh expiresIn now
  let m := if cfg.inactivity > 0 then m.WithTimeout cfg.inactivity now else m
  { d with AccessToken := newAt, RefreshToken := newRt, Metadata := m }

/-- session_manager.go: Refresh (sequential: the lock is free, the re-read sees the same store) -/
def refresh (cfg : Cfg) (d : Data) (st : StoreSt) (plan : IdpPlan) (newAt newRt : String) (now : Int) : RefreshRes :=
  if !canRefresh d now then ⟨none, some d, st, false, false⟩
  else
    let r := getSess .valid st now          -- re-read under the lock
    match r.err, r.sess with
    | some e, _ => ⟨some e, none, st, false, false⟩
    | none, none => ⟨some .other, none, st, false, false⟩
    | none, some d2 =>
      if !canRefresh d2 now then ⟨none, some d2, st, false, false⟩
      else match plan with
        | .clientErr => ⟨some .invalidExternal, none, st, true, false⟩
        | .serverErr => ⟨some .other, none, st, true, false⟩
        | .broken => ⟨some .other, none, st, true, false⟩
        | .ok secs =>
          let d' := applyGrant cfg d2 newAt newRt secs now
          ⟨none, some d', .present d', true, true⟩

/-- session_manager.go: GetOrRefresh -/
def getOrRefresh (cfg : Cfg) (ck : CookieSt) (st : StoreSt) (plan : IdpPlan) (newAt newRt : String) (now : Int) : RefreshRes :=
  let g := getSess ck st now
  match g.err, g.sess with
  | some e, _ => ⟨some e, none, st, false, false⟩
  | none, none => ⟨some .other, none, st, false, false⟩
  | none, some d =>
    if !shouldRefresh d now then ⟨none, some d, st, false, false⟩
    else
      let r := refresh cfg d st plan newAt newRt now
      match r.err with
      | none => r
      | some e =>
        if e = .invalidExternal || e.isInvalid then { r with sess := none }
        else { r with err := none, sess := some d }     -- "falling back to existing tokens"

/-- handler.go / handler_sso_proxy.go: GetSession -/
def getSession (cfg : Cfg) (ck : CookieSt) (st : StoreSt) (plan : IdpPlan) (newAt newRt : String) (now : Int) : RefreshRes :=
  if cfg.mode = .ssoProxy || cfg.autoRefreshDisabled then
    let g := getSess ck st now
    match g.err with
    | some e => ⟨some e, none, st, false, false⟩
    | none => ⟨none, g.sess, st, false, false⟩
  else getOrRefresh cfg ck st plan newAt newRt now

structure ProxyObs where
  authenticated : Bool
  forwarded : Bool              -- the upstream saw the request
  upAuth : Option String        -- Authorization written by wonderwall: the access token
  upIdToken : Option String     -- X-Wonderwall-Id-Token written by wonderwall
  store : StoreSt
  contacted : Bool
  granted : Bool
  deriving Repr, DecidableEq

/-- the request is not authenticated: answered by auto-login, or forwarded as-is without any token -/
def proxyUnauth (cfg : Cfg) (ignored : Bool) (g : RefreshRes) : ProxyObs :=
  if cfg.autoLogin && !ignored then ⟨false, false, none, none, g.store, g.contacted, g.granted⟩
  else ⟨false, true, none, none, g.store, g.contacted, g.granted⟩

/-- reverseproxy.go: Handler + getSessionWithValidToken + Rewrite. `ignored` abstracts "path matches an ignore pattern" (C12). -/
def proxy (cfg : Cfg) (ck : CookieSt) (st : StoreSt) (plan : IdpPlan) (newAt newRt : String) (ignored : Bool) (now : Int) : ProxyObs :=
  let g := getSession cfg ck st plan newAt newRt now
  match g.err, g.sess with
  | none, some d =>
    match accessToken d now with
    | some t =>
      if cfg.acr = "" || acrValid cfg.acr d.Acr then
        ⟨true, true, some t, if cfg.includeIdToken then some d.IDToken else none, g.store, g.contacted, g.granted⟩
      else proxyUnauth cfg ignored g
    | none => proxyUnauth cfg ignored g
  | _, _ => proxyUnauth cfg ignored g

/-- HTTP status of the session endpoints -/
def statusOfErr : SessErr → Nat
  | .notFound => 401 | .invalid => 401 | .inactive => 401 | .invalidExternal => 401 | .other => 500

structure EndpointObs where
  status : Nat
  store : StoreSt
  contacted : Bool
  granted : Bool
  body : Option Data       -- the session whose metadata is rendered
  deriving Repr, DecidableEq

/-- handler.go: Session (read-only info; tolerates `inactive`). The SSO proxy forwards these endpoints to the server. -/
def sessionInfo (ck : CookieSt) (st : StoreSt) (now : Int) : EndpointObs :=
  let g := getSess ck st now
  match g.err, g.sess with
  | none, some d => ⟨200, st, false, false, some d⟩
  | some .inactive, some d => ⟨200, st, false, false, some d⟩
  | some e, _ => ⟨statusOfErr e, st, false, false, none⟩
  | none, none => ⟨500, st, false, false, none⟩

/-- handler.go: SessionRefresh (manual refresh) -/
def sessionRefresh (cfg : Cfg) (ck : CookieSt) (st : StoreSt) (plan : IdpPlan) (newAt newRt : String) (now : Int) : EndpointObs :=
  let g := getSess ck st now
  match g.err, g.sess with
  | some e, _ => ⟨statusOfErr e, st, false, false, none⟩
  | none, none => ⟨500, st, false, false, none⟩
  | none, some d =>
    let r := refresh cfg d st plan newAt newRt now
    match r.err with
    | some e => ⟨if e = .invalidExternal || e.isInvalid || e = .notFound then 401 else 500, r.store, r.contacted, r.granted, none⟩
    | none => ⟨200, r.store, r.contacted, r.granted, r.sess⟩

/-- handler.go: SessionForwardAuth -/
def forwardAuth (cfg : Cfg) (ck : CookieSt) (st : StoreSt) (plan : IdpPlan) (newAt newRt : String) (now : Int) : EndpointObs :=
  if !cfg.forwardAuth then ⟨404, st, false, false, none⟩
  else
    let g := getSession cfg ck st plan newAt newRt now
    match g.err with
    | some e => ⟨statusOfErr e, g.store, g.contacted, g.granted, none⟩
    | none => ⟨204, g.store, g.contacted, g.granted, none⟩

/-- handler.go: LogoutLocal / Logout / LogoutFrontChannel on a healthy store: the entry is deleted when the session could be looked up.
    (Front-channel logout addresses the entry by `sid`, the others through the cookie.) -/
def logoutStore (ck : CookieSt) (st : StoreSt) (now : Int) : StoreSt :=
  match (getSess ck st now).sess with
  | some _ => .absent
  | none => st

/-- a new session as created by the callback (session_manager.go: Create) -/
def createData (cfg : Cfg) (atok rtok idt acr sid : String) (expiresIn now : Int) : Data :=
  let m := NewMetadata expiresIn cfg.maxLifetime now
  let m := if cfg.inactivity > 0 then m.WithTimeout cfg.inactivity now else m
  { ExternalSessionID := sid, AccessToken := atok, IDToken := idt, RefreshToken := rtok, Acr := acr, Metadata := m }

end Ww.Model
