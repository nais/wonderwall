import Ww.Gen.Consts
import Ww.Proofs.C07
/-!
# C10 — Store contents are always expiry-bounded, also after a crash at any point
-/
namespace Ww.Proofs.C10
open Ww.Model.Sched

def TtlInv (s : St) : Prop := ∀ v, s.sess = some v → v.hasTtl = true

/-- **TTL.** After any schedule of any processes with crashes at any points, the session entry (if any) carries an expiry: an update never
    drops it and never re-creates a key -/
theorem session_always_expires (kinds : Pid → Kind) (g0 : Nat) (evs : List Ev) : TtlInv (runAll (init kinds g0) evs) :=
  (Ww.Proofs.C07.inv_runAll _ evs (Ww.Proofs.C07.inv_init kinds g0)).ttl

/-- **lock released.** A refresh that finishes removes its lock entry (crash-free part: the holder is the one that unlocks) -/
theorem lock_released_on_finish (s : St) (p : Pid) (h : Ww.Proofs.C07.Inv s) (hpc : (s.procs p).pc = .unlock) :
    (step s p).1.lock = none ∧ ((step s p).1.procs p).pc = .done := by
  have hl := h.mutex p (by simp [hpc, inCrit])
  unfold step
  simp [hpc, hl]

/-- a crashed holder keeps others out only until the lease runs out -/
theorem lease_frees_lock (s : St) : (leaseExpires s).lock = none ∧ (leaseExpires s).sess = s.sess := ⟨rfl, rfl⟩

/-- while the lock is free, the next process that tries obtains it: nobody is blocked for longer than the lease -/
theorem free_lock_is_obtained (s : St) (p : Pid) (hpc : (s.procs p).pc = .lock) (hl : s.lock = none) :
    (step s p).1.lock = some p ∧ inCrit ((step s p).1.procs p).pc = true := by
  unfold step
  simp [hpc, hl]
  split <;> simp [inCrit]

/-- **after a crash** between the provider's answer and the write-back the stored token is stale; the next refresh is rejected CLEANLY:
    the provider refuses, nothing is written, the lock is released and the request is answered 401 (session reported invalid) -/
theorem stale_session_reported_invalid (s : St) (p : Pid) (hpc : (s.procs p).pc = .idp) (hstale : (s.procs p).rt ≠ s.idpCur) :
    let s1 := (step s p).1
    (s1.procs p).pc = .unlock ∧ (s1.procs p).status = 401 ∧ s1.sess = s.sess ∧ s1.idpCur = s.idpCur := by
  unfold step
  simp [hpc, hstale]

/-- **the lease** (constants regenerated from session_manager.go): ten seconds, and shorter than the time a waiter keeps polling -/
theorem lease_is_ten_seconds :
    Ww.Gen.Consts.refreshLockDuration = 10 * 1000000000 ∧ Ww.Gen.Consts.refreshLockDuration < Ww.Gen.Consts.refreshAcquireLockTimeout ∧
    0 < Ww.Gen.Consts.refreshAcquireLockRetryInterval ∧ Ww.Gen.Consts.refreshAcquireLockRetryInterval < Ww.Gen.Consts.refreshAcquireLockTimeout - Ww.Gen.Consts.refreshLockDuration := by decide

/-- **nobody is blocked for longer than the lease**: a waiter that starts polling at `t` (every retry interval, until the acquire time-out) while a dead holder's lock
    entry - taken at some `t0 ≤ t` - is still there, polls at an instant AFTER the entry's expiry and BEFORE its own time-out, for every `t0`, `t` -/
theorem waiter_outlasts_dead_holder (t0 t : Int) (h : t0 ≤ t) :
    ∃ k : Int, 0 ≤ k ∧ t + k * Ww.Gen.Consts.refreshAcquireLockRetryInterval > t0 + Ww.Gen.Consts.refreshLockDuration ∧
      t + k * Ww.Gen.Consts.refreshAcquireLockRetryInterval < t + Ww.Gen.Consts.refreshAcquireLockTimeout := by
  -- 1001 polls of 10 ms: 10.01 s, just past the 10 s lease and well before the 15 s acquire time-out
  refine ⟨1001, by decide, ?_, ?_⟩ <;> simp [Ww.Gen.Consts.refreshAcquireLockRetryInterval, Ww.Gen.Consts.refreshLockDuration, Ww.Gen.Consts.refreshAcquireLockTimeout] <;> omega

-- non-vacuity: the refresher is killed right after the provider answered; the lease passes; a second refresher is answered 401, no lock is left
example : let s1 := runAll (init (fun _ => .refresh) 0) [.run 0, .run 0, .run 0, .run 0, .run 0, .crash 0, .run 1, .run 1, .run 1, .run 1]
    let s2 := runAll (leaseExpires s1) [.run 1, .run 1, .run 1, .run 1, .run 1]
    s1.lock = some 0 ∧ (s1.procs 1).pc = .lock ∧ s2.lock = none ∧ (s2.procs 1).status = 401 ∧ s2.sess = some ⟨0, false, true, 0⟩ := by decide

end Ww.Proofs.C10
