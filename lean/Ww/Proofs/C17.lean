import Ww.Model.Cookie
import Ww.Gen.Consts
/-!
# C17 — Automatic retries and login bounces are bounded; no endless redirect loop
-/
namespace Ww.Proofs.C17
open Ww.Model

/-- the model's bound is the constant in pkg/handler/error.go -/
theorem bound_is_source_constant : maxAutoRetry = Ww.Gen.Consts.maxAutoRetryAttempts := by decide

/-- a cookie-keeping browser: the retry cookie it sends next is the one the last error response set -/
def failRun (status : Nat) : Option Int → Nat → List Bool
  | _, 0 => []
  | c, n + 1 => let (r, v) := retryStep c status; r :: failRun status (some v) n

/-- counter values a browser can hold: none, or what the server set (1, 2, 3, …) -/
def Reachable : Option Int → Prop
  | none => True
  | some v => 1 ≤ v

/-- both cases at once: an absent (or unparsable) retry cookie reads as 0, as `getRetryAttempts` returns it in error.go -/
theorem retryStep_eq (c : Option Int) (status : Nat) :
    retryStep c status = (decide (c.getD 0 < 3) && status != 429, c.getD 0 + 1) := by
  cases c <;> rfl

theorem reachable_nonneg {c : Option Int} (h : Reachable c) : 0 ≤ c.getD 0 := by
  cases c with
  | none => simp
  | some v => simp [Reachable] at h ⊢; omega

theorem step_reachable (c : Option Int) (status : Nat) (_h : Reachable c) : Reachable (some (retryStep c status).2) := by
  have := reachable_nonneg _h
  simp only [retryStep_eq, Reachable]; omega

/-- once the error page was rendered, every further failure renders it again (no redirect after a non-redirect) -/
theorem page_is_terminal (status : Nat) (c : Option Int) (h : Reachable c) (hr : (retryStep c status).1 = false) (hs : status ≠ 429) :
    (retryStep (some (retryStep c status).2) status).1 = false := by
  simp [retryStep_eq, hs] at hr ⊢; omega

/-- a counter that reads `v` can still produce `3 - v` redirects, and each redirect uses one up -/
theorem run_within_budget (status : Nat) (n : Nat) (c : Option Int) : ((failRun status c n).takeWhile id).length ≤ (3 - c.getD 0).toNat := by
  induction n generalizing c with
  | zero => simp [failRun]
  | succ n ih =>
    simp only [failRun, retryStep_eq]
    have := ih (some (c.getD 0 + 1))
    cases hr : (decide (c.getD 0 < 3) && status != 429) <;> simp [List.takeWhile] at this hr ⊢
    omega

/-- **C17 (retry bound).** Whatever keeps failing, a cookie-keeping browser starting from any reachable counter sees at most three automatic retry
    redirects in a row; the fourth consecutive failure (at the latest) renders the error page, and from then on only the error page -/
theorem at_most_three_redirects (status : Nat) (c : Option Int) (h : Reachable c) (n : Nat) :
    ((failRun status c n).takeWhile id).length ≤ 3 := by
  have := run_within_budget status n c
  have := reachable_nonneg h
  omega

/-- a rate-limited (429) response is never auto-retried -/
theorem no_retry_on_429 (c : Option Int) : (retryStep c 429).1 = false := by simp [retryStep_eq]

/-- **rate limit.** A browser with a session sent to login again and again gets through exactly `logins` times, then 429, and the counter is
    not touched by the 429 (so it lapses `window` after the last counted attempt) -/
def loginRun (logins : Int) : Option Int → Nat → List Bool
  | _, 0 => []
  | c, n + 1 => let (lim, c') := rateLimitStep true logins c; lim :: loginRun logins c' n

/-- an absent counter reads as 0 here too (`c = cookie.Make(LoginCount, "0")` in applyLoginRateLimit) -/
theorem limited_stays_limited (logins : Int) (c : Option Int) (hc : c.getD 0 ≥ logins) (n : Nat) : loginRun logins c n = List.replicate n true := by
  induction n with
  | zero => rfl
  | succ n ih => simp [loginRun, rateLimitStep, hc, ih, List.replicate_succ]

theorem rate_limit_after_n (logins : Int) (c : Option Int) (m j : Nat) (hc : c.getD 0 + m = logins) :
    loginRun logins c (m + j) = List.replicate m false ++ List.replicate j true := by
  induction m generalizing c with
  | zero => simpa using limited_stays_limited logins c (by omega) j
  | succ m ih =>
    have hlt : ¬ c.getD 0 ≥ logins := by omega
    rw [show m + 1 + j = (m + j) + 1 by omega]
    simp [loginRun, rateLimitStep, hlt, ih (some (c.getD 0 + 1)) (by simp; omega), List.replicate_succ]

/-- from no counter at all: exactly `logins` visits pass, every further one within the window is answered 429 -/
theorem rate_limit_from_fresh (logins : Nat) (j : Nat) :
    loginRun logins none (logins + j) = List.replicate logins false ++ List.replicate j true :=
  rate_limit_after_n logins none logins j (by simp)

theorem rate_limit_off (logins : Int) (c : Option Int) : (rateLimitStep false logins c).1 = false := by unfold rateLimitStep; simp

-- non-vacuity: no cookie → redirect, redirect, redirect, page, page
example : failRun 500 none 5 = [true, true, true, false, false] := by decide
example : loginRun 3 none 5 = [false, false, false, true, true] := by decide

end Ww.Proofs.C17
