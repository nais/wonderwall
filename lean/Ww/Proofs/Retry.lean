import Ww.Model.Retry
import Ww.Gen.Consts
/-!
# C11 "short transient store faults are absorbed by retries": the back-off schedule, for every base, budget and fault length

Unbounded statements about `Ww.Model.Retry` (any base, any budget, any fault duration), then the instance at the constants regenerated from pkg/retry/retry.go.
-/
namespace Ww.Proofs.Retry
open Ww.Model.Retry

theorem pause_bounds (next : Nat) {left : Nat} (h : 0 < left) : 0 < pause next left ∧ pause next left ≤ left := by
  unfold pause; split <;> constructor <;> omega

/-- no attempt is made before the running offset, and none after the budget's end if the running offset lies within it -/
theorem attempts_bounds (max f p c t : Nat) : ∀ x ∈ attempts max f p c t, t ≤ x ∧ (t ≤ max → x ≤ max) := by
  fun_induction attempts max f p c t with
  | case1 | case2 => simp
  | case3 f p c t _ ih =>
    have := pause_bounds (p + c) (show 0 < max - t by omega)
    intro x hx
    rcases List.mem_cons.mp hx with rfl | hx
    · exact ⟨Nat.le_refl _, id⟩
    · exact ⟨by have := (ih x hx).1; omega, fun _ => (ih x hx).2 (by omega)⟩

/-- **the budget is never overrun**: every attempt happens within `max` of the start -/
theorem attempts_le_max (max f p c t : Nat) (ht : t ≤ max) : ∀ x ∈ attempts max f p c t, x ≤ max :=
  fun x hx => (attempts_bounds max f p c t x hx).2 ht

/-- **the last attempt is made exactly when the budget runs out**, whatever the base: the pause is cut down to what is left, never skipped -/
theorem last_attempt_at_max (max f p c t : Nat) (ht : t ≤ max) (hf : max - t < f) : (attempts max f p c t).getLast? = some max := by
  fun_induction attempts max f p c t with
  | case1 => omega
  | case2 => simp; omega
  | case3 f p c t _ ih =>
    have := pause_bounds (p + c) (show 0 < max - t by omega)
    rw [List.getLast?_cons, ih (by omega) (by omega)]; rfl

/-- attempts are strictly increasing: the policy always waits before it tries again -/
theorem attempts_increasing (max f p c t : Nat) : (attempts max f p c t).Pairwise (· < ·) := by
  fun_induction attempts max f p c t with
  | case1 | case2 => simp
  | case3 f p c t _ ih =>
    have := pause_bounds (p + c) (show 0 < max - t by omega)
    exact List.Pairwise.cons (fun x hx => by have := attempts_bounds _ _ _ _ _ x hx; omega) ih

theorem length_le (max f p c t : Nat) : (attempts max f p c t).length ≤ max - t + 1 := by
  fun_induction attempts max f p c t with
  | case1 | case2 => simp
  | case3 f p c t _ ih =>
    have := pause_bounds (p + c) (show 0 < max - t by omega)
    simp only [List.length_cons]; omega

/-- what `outcomeOf` reports on a non-empty schedule: success at an attempt the fault no longer reaches, or, if it outlasts them all, giving up at the last -/
theorem outcomeOf_spec (d : Nat) (l : List Nat) (n : Nat) (hl : l ≠ []) :
    (∃ t k, outcomeOf d l n = .ok t k ∧ t ∈ l ∧ d ≤ t) ∨
    ((∀ x ∈ l, x < d) ∧ outcomeOf d l n = .gaveUp (l.getLast hl) (n + l.length)) := by
  fun_induction outcomeOf d l n with
  | case1 => contradiction
  | case2 t n h | case4 t _ n _ h => exact .inl ⟨t, _, rfl, by simp, h⟩
  | case3 t n h => exact .inr ⟨by simpa using h, by simp⟩
  | case5 t rest n hr h ih =>
    rcases ih hr with ⟨t', k, h1, h2, h3⟩ | ⟨hall, hg⟩
    · exact .inl ⟨t', k, h1, List.mem_cons_of_mem _ h2, h3⟩
    · exact .inr ⟨List.forall_mem_cons.mpr ⟨by omega, hall⟩, by simp [hg, List.getLast_cons hr]; omega⟩

/-- a call as pkg/retry makes it, against a fault that ends at `d`: absorbed if `d` lies within the budget, given up at the budget's end if not.
    (`fuel` only bounds the recursion: anything above `max` will do.) -/
theorem outcome_cases (base max fuel d : Nat) (hf : max < fuel) :
    (d ≤ max ∧ ∃ t k, outcome base max fuel d = .ok t k ∧ d ≤ t ∧ t ≤ max) ∨
    (max < d ∧ ∃ k, outcome base max fuel d = .gaveUp max k ∧ k ≤ max + 1) := by
  have hlast := last_attempt_at_max max fuel 0 base 0 (Nat.zero_le _) (by omega)
  have hmem : max ∈ attempts max fuel 0 base 0 := List.mem_of_getLast? hlast
  rcases outcomeOf_spec d _ 0 (List.ne_nil_of_mem hmem) with ⟨t, k, h1, h2, h3⟩ | ⟨hall, hg⟩
  · have := attempts_le_max max fuel 0 base 0 (Nat.zero_le _) t h2
    exact .inl ⟨by omega, t, k, h1, h3, this⟩
  · rw [(List.getLast_eq_iff_getLast?_eq_some _).mpr hlast] at hg
    exact .inr ⟨hall max hmem, _, hg, by have := length_le max fuel 0 base 0; omega⟩

/-- **transient faults are absorbed** — for every base, every budget `max`, every fault that ends at some `d ≤ max` after the call began: one of the attempts
    succeeds, at an offset within the budget, and no later than the budget's end. (`fuel` only bounds the recursion: anything above `max` will do.) -/
theorem transient_fault_absorbed (base max fuel d : Nat) (hf : max < fuel) (hd : d ≤ max) :
    ∃ t k, outcome base max fuel d = .ok t k ∧ d ≤ t ∧ t ≤ max :=
  ((outcome_cases base max fuel d hf).resolve_right (by omega)).2

/-- **a fault that outlasts the budget ends the call** (fail closed, in bounded time): the last attempt is made exactly at `max`, after at most `max + 1` tries,
    and the call gives up there -/
theorem persistent_fault_gives_up (base max fuel d : Nat) (hf : max < fuel) (hd : max < d) :
    ∃ k, outcome base max fuel d = .gaveUp max k ∧ k ≤ max + 1 :=
  ((outcome_cases base max fuel d hf).resolve_left (by omega)).2

/-- **the abstraction `Ww.Model.Faults` uses, justified**: a retried operation fails if and only if the fault outlasts the budget -/
theorem absorbed_iff_within_budget (base max fuel d : Nat) (hf : max < fuel) :
    (∃ t k, outcome base max fuel d = .ok t k) ↔ d ≤ max := by
  rcases outcome_cases base max fuel d hf with ⟨hd, t, k, h, _⟩ | ⟨hd, k, h, _⟩
  · exact ⟨fun _ => hd, fun _ => ⟨t, k, h⟩⟩
  · simp [h]; omega

/-- the schedule of the CURRENT constants (pkg/retry/retry.go, regenerated): 50 ms base, 5 s budget ⇒ ten attempts at
    0, 50, 150, 300, 550, 950, 1600, 2650, 4350 ms and - cut down from 7100 - at 5000 ms -/
theorem schedule_of_the_source :
    (schedule Ww.Gen.Consts.retryBase.toNat Ww.Gen.Consts.retryMax.toNat 64).map (· / 1000000) = [0, 50, 150, 300, 550, 950, 1600, 2650, 4350, 5000] ∧
    0 < Ww.Gen.Consts.retryBase ∧ 0 < Ww.Gen.Consts.retryMax := by decide +kernel

/-- at the current constants: any store / provider fault shorter than the 5 s budget is absorbed -/
theorem source_absorbs_short_faults (d : Nat) (hd : d ≤ Ww.Gen.Consts.retryMax.toNat) :
    ∃ t k, outcome Ww.Gen.Consts.retryBase.toNat Ww.Gen.Consts.retryMax.toNat (Ww.Gen.Consts.retryMax.toNat + 1) d = .ok t k ∧ d ≤ t ∧ t ≤ Ww.Gen.Consts.retryMax.toNat :=
  transient_fault_absorbed _ _ _ d (Nat.lt_succ_self _) hd

/-- non-vacuity: a 120 ms fault is absorbed by the third attempt (at 150 ms); a fault outlasting the budget costs ten attempts -/
example : outcome 50 5000 64 120 = .ok 150 3 ∧ outcome 50 5000 64 6000 = .gaveUp 5000 10 ∧ outcome 50 5000 64 0 = .ok 0 1 := by decide

end Ww.Proofs.Retry
