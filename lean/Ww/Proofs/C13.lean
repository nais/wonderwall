import Ww.Model.Login
/-!
# C13 — Every authorization request is fresh, PKCE-bound and names a configured ingress
-/
namespace Ww.Proofs.C13
open Ww.Model

/-- the requested acr_values is a value the provider supports, or the configured default, or absent -/
theorem acr_allowed (cfg : LoginCfg) (level : String) :
    acrParam cfg level ∈ cfg.acrSupported ∨ acrParam cfg level = cfg.acrDefault ∨ acrParam cfg level = "" := by
  unfold acrParam
  by_cases h0 : cfg.acrDefault = ""
  · simp [h0]
  simp only [h0, if_false]
  generalize (if level = "" then cfg.acrDefault else level) = v
  by_cases hv : v ∈ cfg.acrSupported
  · simp [hv]
  cases legacyAcr v with
  | none => simp [hv]
  | some t => by_cases ht : t ∈ cfg.acrSupported <;> simp [hv, ht]

theorem locale_allowed (cfg : LoginCfg) (locale : String) :
    localeParam cfg locale ∈ cfg.localesSupported ∨ localeParam cfg locale = cfg.localeDefault ∨ localeParam cfg locale = "" := by
  unfold localeParam
  by_cases h0 : cfg.localeDefault = ""
  · simp [h0]
  simp only [h0, if_false]
  generalize (if locale = "" then cfg.localeDefault else locale) = v
  by_cases hv : v ∈ cfg.localesSupported <;> simp [hv]

theorem prompt_allowed (p : String) : promptParam p = "" ∨ promptParam p = "login" ∨ promptParam p = "select_account" := by
  unfold promptParam
  by_cases h0 : p = ""
  · simp [h0]
  by_cases h : p = "login" ∨ p = "select_account" <;> simp [h0, h]

/-- the redirect_uri always names a CONFIGURED ingress that matches the request's Host or X-Forwarded-Host — it is never built from a header value -/
theorem redirect_uri_is_configured (cfg : LoginCfg) (ings : List Ingress) (host xfh p level locale prompt : String) (d : Draw) (a : AuthRequest)
    (h : authRequest cfg ings host xfh p level locale prompt d = some a) :
    ∃ ing ∈ ings, (ing.host = host ∨ ing.host = xfh) ∧ ing.path = matchingPath ings p ∧ a.cookieRedirectUri = ing.url ++ "/oauth2/callback" ∧
      ("redirect_uri", ing.url ++ "/oauth2/callback") ∈ a.params := by
  unfold authRequest at h
  split at h <;> cases h
  rename_i ing hm
  have hprop := List.find?_some hm
  simp at hprop
  exact ⟨ing, List.mem_of_find?_eq_some hm, hprop.1, hprop.2, rfl, by simp⟩

/-- an unconfigured Host / X-Forwarded-Host yields no authorization request at all -/
theorem unconfigured_host_no_request (cfg : LoginCfg) (ings : List Ingress) (host xfh p level locale prompt : String) (d : Draw)
    (h : ∀ ing ∈ ings, ing.host ≠ host ∧ ing.host ≠ xfh) : authRequest cfg ings host xfh p level locale prompt d = none := by
  have : matchingIngress ings host xfh p = none := List.find?_eq_none.mpr fun ing hi => by simp [h ing hi]
  simp [authRequest, this]

/-- the parameters are bound to the sealed cookie: same state, nonce, redirect URI; S256 challenge of the cookie's verifier; response_type=code -/
theorem params_bound_to_cookie (cfg : LoginCfg) (ings : List Ingress) (host xfh p level locale prompt : String) (d : Draw) (a : AuthRequest)
    (h : authRequest cfg ings host xfh p level locale prompt d = some a) :
    ("state", a.cookieState) ∈ a.params ∧ ("nonce", a.cookieNonce) ∈ a.params ∧ ("redirect_uri", a.cookieRedirectUri) ∈ a.params ∧
    ("code_challenge", s256 a.cookieVerifier) ∈ a.params ∧ ("code_challenge_method", "S256") ∈ a.params ∧ ("response_type", "code") ∈ a.params ∧
    a.cookieState = d.state ∧ a.cookieNonce = d.nonce ∧ a.cookieVerifier = d.verifier := by
  unfold authRequest at h
  split at h <;> cases h
  simp

/-- prompt implies max_age=0 -/
theorem prompt_forces_reauth (cfg : LoginCfg) (ings : List Ingress) (host xfh p level locale prompt : String) (d : Draw) (a : AuthRequest)
    (h : authRequest cfg ings host xfh p level locale prompt d = some a) (v : String) (hp : ("prompt", v) ∈ a.params) : ("max_age", "0") ∈ a.params := by
  unfold authRequest at h
  split at h <;> cases h
  by_cases hpr : promptParam prompt = ""
  · simp [hpr] at hp
  · simp [hpr]

/-- **freshness from an injective random source**: visit `i` draws values number 3i, 3i+1, 3i+2; then no state, nonce or verifier is ever shared
    between two visits, nor between two roles. (Unpredictability is an assumption on crypto/rand, see DESIGN §6 H-RND.) -/
def drawOf (rnd : Nat → String) (i : Nat) : Draw := ⟨rnd (3 * i), rnd (3 * i + 1), rnd (3 * i + 2)⟩

theorem draws_fresh (rnd : Nat → String) (hinj : ∀ a b, rnd a = rnd b → a = b) (i j : Nat) (hij : i ≠ j) :
    let di := drawOf rnd i; let dj := drawOf rnd j
    di.state ≠ dj.state ∧ di.nonce ≠ dj.nonce ∧ di.verifier ≠ dj.verifier ∧ di.state ≠ dj.nonce ∧ di.state ≠ dj.verifier ∧ di.nonce ≠ dj.verifier ∧
    di.state ≠ di.nonce ∧ di.state ≠ di.verifier ∧ di.nonce ≠ di.verifier := by
  simp only [drawOf]
  refine ⟨?_, ?_, ?_, ?_, ?_, ?_, ?_, ?_, ?_⟩ <;> (intro h; have := hinj _ _ h; omega)

-- non-vacuity (test, evaluated by #guard): path-prefixed ingress, legacy level mapped, unsupported locale and prompt fall back
#guard (authRequest { acrDefault := "Level4", acrSupported := ["idporten-loa-high"], localeDefault := "nb", localesSupported := ["nb", "en"] }
    [⟨"https", "app.example.com", ""⟩, ⟨"https", "app.example.com", "/sub"⟩] "app.example.com" "" "/sub/oauth2/login" "" "xx" "bogus" ⟨"S", "N", "V"⟩).map (·.params) ==
    some [("client_id", "client-id"), ("code_challenge", "S256(V)"), ("code_challenge_method", "S256"), ("nonce", "N"),
          ("redirect_uri", "https://app.example.com/sub/oauth2/callback"), ("response_mode", "query"), ("response_type", "code"), ("state", "S"),
          ("acr_values", "idporten-loa-high"), ("ui_locales", "nb"), ("prompt", "login"), ("max_age", "0")]

end Ww.Proofs.C13
