import Ww.Proofs.C04Lemmas
/-!
# C04, absolute redirect targets (SSO server / SSO proxy): the browser reads the same authority as Go
-/
namespace Ww.Proofs.C04A
open Ww.Model Ww.Model.Url Ww.Model.Redirect Ww.Model.Browser Ww.Proofs.C04L

/-- characters that end the authority for a browser -/
def isTerm (c : Char) : Bool := Browser.isSep c || c = '?' || c = '#'

/-- a character the browser neither strips from the end of the input nor takes for the end of the authority -/
abbrev okAuthChar (c : Char) : Prop := isC0Space c = false ∧ isTerm c = false

theorem okAuthChar_ne (c : Char) (h : okAuthChar c) : Browser.isSep c = false ∧ c ≠ '?' := by
  have := h.2
  simp only [isTerm, Bool.or_eq_false_iff, decide_eq_false_iff_not] at this
  exact this.1

/-- the part of the authority after the last `@` -/
def hostPart (auth : Str) : Str := match cutLast '@' auth with | some (_, hp) => hp | none => auth

/-! ## the browser on `scheme://authority tail` -/

theorem schemeChar_ne (c : Char) (h : schemeChar c = true) : c ≠ ':' ∧ c ≠ '?' := by
  simp [schemeChar, isAlnum, isAlpha, isDigit, char_le, ← Char.toNat_inj] at h ⊢
  omega

theorem schemeRest_scan (acc r Y : Str) (hr : ∀ c ∈ r, schemeChar c = true) :
    schemeRest acc (r ++ ':' :: Y) = some (acc.reverse ++ r, Y) := by
  induction r generalizing acc with
  | nil => simp [schemeRest]
  | cons c r ih =>
    have hc : (isAlnum c || c = '+' || c = '-' || c = '.') = true := hr c List.mem_cons_self
    simp only [List.cons_append, schemeRest, (schemeChar_ne c hc).1, if_false]
    rw [if_pos hc, ih (c :: acc) (fun d hd => hr d (List.mem_cons_of_mem _ hd))]
    simp

/-- scheme state: a letter, then scheme characters up to the colon -/
theorem schemeOf_scan (sch Y : Str) (hchars : ∀ c ∈ sch, schemeChar c = true) (hfirst : ∃ a r, sch = a :: r ∧ isAlpha a = true) :
    schemeOf (sch ++ ':' :: Y) = some (sch, Y) := by
  obtain ⟨a, r, rfl, ha⟩ := hfirst
  simpa [schemeOf, ha] using schemeRest_scan [a] r Y fun c hc => hchars c (List.mem_cons_of_mem _ hc)

/-- authority state: the authority ends at the first terminator, the credentials at the last `@` -/
theorem authority_spec (s auth tail : Str) (hac : ∀ c ∈ auth, isTerm c = false) (htail : ∀ c, tail.head? = some c → isTerm c = true) :
    authority s (auth ++ tail) = hostPort s (hostPart auth) := by
  have : (auth ++ tail).takeWhile (fun c => !(Browser.isSep c || c = '?' || c = '#')) = auth := by
    rw [List.takeWhile_append_of_pos fun c hc => by simpa [isTerm] using hac c hc]
    cases tail with
    | nil => simp
    | cons c t =>
      rw [List.takeWhile_cons_of_neg (by simp [show (Browser.isSep c || c = '?' || c = '#') = true from htail c rfl]), List.append_nil]
  unfold authority hostPart
  simp only [this]
  cases cutLast '@' auth <;> rfl

/-- **browser, absolute form**: for `scheme://authority tail` with an http(s) scheme the browser parses exactly `authority` as the authority,
    drops the credentials up to the last `@`, and hands the rest to the host/port parser — whatever the base URL is -/
theorem browse_abs (base sch auth tail : Str) (hchars : ∀ c ∈ sch, schemeChar c = true) (hfirst : ∃ a r, sch = a :: r ∧ isAlpha a = true)
    (hhttp : isHttp (toLower sch) = true) (hne : auth ≠ []) (hac : ∀ c ∈ auth, okAuthChar c)
    (htail : ∀ c, tail.head? = some c → isTerm c = true)
    (hnt : ∀ c ∈ sch ++ ':' :: '/' :: '/' :: auth ++ tail, isTabNl c = false) :
    browse base (sch ++ ':' :: '/' :: '/' :: auth ++ tail) = hostPort (toLower sch) (hostPart auth) := by
  obtain ⟨a, r, rfl, ha⟩ := hfirst
  obtain ⟨b, auth', rfl⟩ := List.exists_cons_of_ne_nil hne
  -- clean-up: nothing goes but blanks at the end of `tail`
  obtain ⟨tail', hclean, suf, rfl⟩ := cleanInput_keep _ tail (a := a) (b := (b :: auth').getLast hne) rfl
    (by simp only [List.getLast?_append, List.getLast?_cons_cons, List.getLast?_eq_some_getLast hne, Option.some_or])
    (by simp [isAlpha, isC0Space, char_le] at ha ⊢; omega) (hac _ (List.getLast_mem _)).1 hnt
  have htail' : ∀ c, tail'.head? = some c → isTerm c = true := fun c hc =>
    htail c (by cases tail' with | nil => cases hc | cons d t => exact hc)
  have hscheme := schemeOf_scan (a :: r) ('/' :: '/' :: b :: (auth' ++ tail')) hchars ⟨a, r, rfl, ha⟩
  have hdrop : ('/' :: '/' :: b :: (auth' ++ tail')).dropWhile Browser.isSep = b :: auth' ++ tail' := by
    rw [List.dropWhile_cons_of_pos (by decide), List.dropWhile_cons_of_pos (by decide),
      List.dropWhile_cons_of_neg (by simp [(okAuthChar_ne b (hac b List.mem_cons_self)).1]), List.cons_append]
  have hauthority := fun s => authority_spec s (b :: auth') tail' (fun c hc => (hac c hc).2) htail'
  unfold browse
  simp only [List.append_assoc, List.cons_append] at hclean hscheme ⊢
  simp only [hclean, hscheme, hhttp, if_true]
  split
  · have : (Browser.isSep '/' && Browser.isSep '/') = true := by decide
    simp only [relRef, this, if_true, hdrop]
    exact hauthority _
  · rw [hdrop]
    exact hauthority _

/-! ## Go side: what ParseRequestURI accepted as an absolute http(s) URL has the form scheme "://" authority tail -/

/-- an accepted absolute target, taken apart the way Go's parser took it apart -/
theorem abs_decompose (allowed : List Str) (E : Str) (h : absValid allowed E = true) :
    ∃ (sch auth tail : Str) (u : URL), E = sch ++ ':' :: '/' :: '/' :: auth ++ tail ∧
      (∀ c ∈ sch, schemeChar c = true) ∧ (∃ a r, sch = a :: r ∧ isAlpha a = true) ∧ isHttp (toLower sch) = true ∧
      parseAuthority auth = some (u.user, u.host) ∧ auth ≠ [] ∧ isAllowedHost u allowed = true ∧
      (∀ c, tail.head? = some c → isTerm c = true) ∧ E.any isCTL = false := by
  unfold absValid parseRequestURI at h
  simp only [Bool.and_eq_true] at h
  obtain ⟨_, h⟩ := h
  split at h
  · cases h
  rename_i u hp
  simp only [Bool.and_eq_true, Bool.not_eq_true'] at h
  obtain ⟨⟨-, hsch⟩, hhost⟩ := h
  have hh : u.host ≠ [] := by
    simp only [isAllowedHost, Bool.and_eq_true, ne_eq, decide_eq_true_eq] at hhost
    simpa using hhost.1.1
  have hs : u.scheme ≠ [] := by
    intro h0
    simp [isValidScheme, h0] at hsch
  obtain ⟨sch, rest0, hg, hne, hsc, hctl, hsl, hpa⟩ := parse_req_abs E u hp hs hh
  rcases getScheme_spec E sch rest0 hg with ⟨h0, -⟩ | ⟨hraw, hchars, hfirst⟩
  · exact absurd h0 hne
  -- rest0 = "//" ++ x ++ query, and x = authority ++ path
  rw [splitQuery_fst] at hsl hpa
  have hq := cut_spec '?' rest0
  obtain ⟨x, hx⟩ : ∃ x, (cut '?' rest0).1 = '/' :: '/' :: x :=
    ⟨_, (List.prefix_iff_eq_append.mp (List.isPrefixOf_iff_prefix.mp hsl)).symm⟩
  rw [hx] at hq hpa
  simp only [List.drop_succ_cons, List.drop_zero] at hpa
  have ha := cut_spec '/' x
  refine ⟨sch, (cut '/' x).1, (if (cut '/' x).2.2 then '/' :: (cut '/' x).2.1 else []) ++
    (if (cut '?' rest0).2.2 then '?' :: (cut '?' rest0).2.1 else []), u, ?_, hchars, hfirst, ?_, hpa, ?_, hhost, ?_, hctl⟩
  · rw [hraw, List.append_assoc, List.cons_append, List.cons_append, List.cons_append, ← List.append_assoc (cut '/' x).1, ← ha]
    exact congrArg (fun r => sch ++ ':' :: r) hq
  · rw [← hsc]
    exact hsch
  · intro h0
    rw [h0, show parseAuthority [] = some (none, []) by decide] at hpa
    exact hh (Prod.mk.inj (Option.some.inj hpa)).2.symm
  · intro c hc
    split at hc
    · cases Option.some.inj hc; decide
    · split at hc
      · cases Option.some.inj hc; decide
      · cases hc

/-! ## every byte of an authority Go accepts is one a browser keeps inside the authority -/

theorem alnum_ok (c : Char) (h : isAlnum c = true) : okAuthChar c := by
  simp [isAlnum, isAlpha, isDigit, okAuthChar, isC0Space, isTerm, Browser.isSep, char_le, ← Char.toNat_inj] at h ⊢
  omega

theorem ge128_ok (c : Char) (h : ¬ c.toNat < 128) : okAuthChar c := by
  simp [okAuthChar, isC0Space, isTerm, Browser.isSep, ← Char.toNat_inj]
  omega

theorem hex_ok (c : Char) (h : ishex c = true) : okAuthChar c := by
  simp [ishex, isDigit, okAuthChar, isC0Space, isTerm, Browser.isSep, char_le, ← Char.toNat_inj] at h ⊢
  omega

theorem hostNoEsc_ok (m : Mode) (hm : m = .host ∨ m = .zone) (c : Char) (h : shouldEscape c m = false) : okAuthChar c := by
  unfold shouldEscape at h
  rcases ite_cases h with ⟨hc, -⟩ | ⟨-, h⟩
  · exact alnum_ok c hc
  rcases ite_cases h with ⟨hc, -⟩ | ⟨-, h⟩
  · exact (by decide : ∀ d ∈ hostExtra, okAuthChar d) c (by simpa using hc.2)
  rcases ite_cases h with ⟨hc, -⟩ | ⟨-, h⟩
  · exact (by decide : ∀ d ∈ unreservedMarks, okAuthChar d) c (by simpa using hc)
  · rcases hm with rfl | rfl <;> simp at h

theorem unescapeOk_chars (m : Mode) (hm : m = .host ∨ m = .zone) (s : Str) (h : unescapeOk m s = true) : ∀ c ∈ s, okAuthChar c := by
  fun_induction unescapeOk m s with
  | case1 => simp
  | case2 a b rest' ih =>
    simp only [Bool.and_eq_true] at h
    obtain ⟨⟨⟨⟨ha, hb⟩, -⟩, -⟩, hrest⟩ := h
    simp only [List.forall_mem_cons]
    exact ⟨by decide, hex_ok a ha, hex_ok b hb, ih hrest⟩
  | case3 => cases h
  | case4 rest _ ih => simp only [List.forall_mem_cons]; exact ⟨by decide, ih h⟩
  | case5 => cases h
  | case6 c rest _ _ hc ih =>
    simp only [List.forall_mem_cons]
    refine ⟨?_, ih h⟩
    by_cases h128 : c.toNat < 128
    · exact hostNoEsc_ok m hm c (by simpa [hm, h128] using hc)
    · exact ge128_ok c h128

theorem cutLast_spec (c : Char) (s b a : Str) (h : cutLast c s = some (b, a)) : s = b ++ c :: a ∧ c ∉ a := by
  unfold cutLast at h
  dsimp only at h
  split at h
  · rename_i hf
    obtain ⟨rfl, rfl⟩ := Prod.mk.inj (Option.some.inj h)
    have hs := cut_spec c s.reverse
    rw [if_pos hf] at hs
    exact ⟨by simpa using congrArg List.reverse hs, by simpa using cut_not_mem c s.reverse⟩
  · cases h

theorem cutLast_none (c : Char) (s : Str) (h : cutLast c s = none) : c ∉ s := by
  unfold cutLast at h
  dsimp only at h
  split at h
  · cases h
  · rename_i hf
    have := cut_not_mem c s.reverse
    rwa [cut_not_found c _ (by simpa using hf), List.mem_reverse] at this

theorem splitZone_spec (s x y : Str) (h : splitZone s = some (x, y)) : s = x ++ y := by
  induction s generalizing x with
  | nil => simp [splitZone] at h
  | cons c rest ih =>
    unfold splitZone at h
    split at h
    · obtain ⟨rfl, rfl⟩ := Prod.mk.inj (Option.some.inj h); rfl
    · cases hr : splitZone rest with
      | none => rw [hr] at h; simp at h
      | some p =>
        rw [hr] at h
        obtain ⟨rfl, rfl⟩ := Prod.mk.inj (Option.some.inj h)
        rw [List.cons_append, ← ih p.1 hr]

theorem parseHost_chars (hp host : Str) (h : parseHost hp = some host) : ∀ c ∈ hp, okAuthChar c := by
  have hok : ∀ m, m = Mode.host ∨ m = Mode.zone → ∀ s p, unescape m s = some p → ∀ c ∈ s, okAuthChar c :=
    fun m hm s p hs => unescapeOk_chars m hm s (unescape_some m s p hs).1
  unfold parseHost at h
  split at h
  · split at h
    · cases h
    rename_i inside colonPort hcl
    rw [Option.ite_none_left_eq_some] at h
    split at h
    · -- host, zone and what follows the bracket are unescaped one by one
      rename_i h1 zoneOn hz
      split at h
      · rename_i a b c ha hb hc
        rw [(cutLast_spec _ _ _ _ hcl).1, splitZone_spec _ _ _ hz]
        simp only [List.mem_append]
        rintro x ((hx | hx) | hx)
        · exact hok _ (Or.inl rfl) _ _ ha x hx
        · exact hok _ (Or.inr rfl) _ _ hb x hx
        · exact hok _ (Or.inl rfl) _ _ hc x hx
      · cases h.2
    · exact hok _ (Or.inl rfl) _ _ h.2
  · split at h
    · rw [Option.ite_none_left_eq_some] at h
      exact hok _ (Or.inl rfl) _ _ h.2
    · exact hok _ (Or.inl rfl) _ _ h

theorem parseAuthority_spec (auth host : Str) (user : Option (Str × Option Str)) (h : parseAuthority auth = some (user, host)) :
    parseHost (hostPart auth) = some host ∧ ∀ c ∈ auth, okAuthChar c := by
  unfold parseAuthority at h
  unfold hostPart
  split at h
  · rename_i hn
    obtain ⟨h', hph, heq⟩ := Option.map_eq_some_iff.mp h
    rw [hn, hph, (Prod.mk.inj heq).2]
    exact ⟨rfl, parseHost_chars _ _ hph⟩
  · rename_i userinfo hostpart hc
    obtain ⟨hsp, -⟩ := cutLast_spec _ _ _ _ hc
    split at h
    · cases h
    rename_i h' hph
    rw [Option.ite_none_left_eq_some] at h
    obtain ⟨hvalid, h⟩ := h
    -- every way on from here returns the host just parsed
    have hhost : h' = host := by
      dsimp only at h
      split at h
      · obtain ⟨_, -, heq⟩ := Option.map_eq_some_iff.mp h
        exact (Prod.mk.inj heq).2
      · split at h
        · exact (Prod.mk.inj (Option.some.inj h)).2
        · cases h
    rw [hc, hph, hhost]
    refine ⟨rfl, fun c hcm => ?_⟩
    rw [hsp] at hcm
    rcases List.mem_append.mp hcm with h1 | h1
    · have := List.all_eq_true.mp (by simpa using hvalid : validUserinfo userinfo = true) c h1
      rcases Bool.or_eq_true _ _ ▸ this with h2 | h2
      · exact alnum_ok c h2
      · exact (by decide : ∀ d ∈ userinfoExtra, okAuthChar d) c (by simpa using h2)
    · rcases List.mem_cons.mp h1 with rfl | h2
      · decide
      · exact parseHost_chars _ _ hph c h2

/-- **C04, absolute targets — authority agreement.** Whatever absolute target the validator accepts: the browser (after net/http's
    escaping of non-ASCII bytes) reads the very same authority bytes that Go's parser read, discards the same credentials, and hands to
    its host parser exactly the string whose decoded form Go checked against the allow-list. No `\`, `#`, `?`, `@`, whitespace, TAB/LF
    or scheme-only trick makes the two disagree about where the authority is. (ASCII hypothesis: true of every `URL.String()` output,
    see `toStr` — path, host, user and fragment are percent-escaped there; only the query is copied raw.) -/
theorem abs_authority_agrees (base : Str) (allowed : List Str) (E : Str) (h : absValid allowed E = true)
    (hascii : ∀ c ∈ (cut '?' E).1, c.toNat < 128) :
    ∃ (sch auth : Str) (u : URL), isHttp (toLower sch) = true ∧ parseHost (hostPart auth) = some u.host ∧ isAllowedHost u allowed = true ∧
      browse base (hexEscapeNonASCII E) = hostPort (toLower sch) (hostPart auth) := by
  obtain ⟨sch, auth, tail, u, rfl, hchars, hfirst, hhttp, hpa, hne, hallowed, htail, hctl⟩ := abs_decompose allowed E h
  obtain ⟨hph, hauthc⟩ := parseAuthority_spec _ _ _ hpa
  refine ⟨sch, auth, u, hhttp, hph, hallowed, ?_⟩
  -- everything up to the end of the authority is free of `?`, hence ASCII, hence untouched by the escaper
  have hnoq : ∀ c ∈ sch ++ ':' :: '/' :: '/' :: auth, (c != '?') = true := by
    intro c hc
    simp only [List.mem_append, List.mem_cons] at hc
    rcases hc with h1 | rfl | rfl | rfl | h1
    · simpa using (schemeChar_ne c (hchars c h1)).2
    · decide
    · decide
    · decide
    · simpa using (okAuthChar_ne c (hauthc c h1)).2
  have hXascii : ∀ c ∈ sch ++ ':' :: '/' :: '/' :: auth, c.toNat < 128 := fun c hc =>
    hascii c (by rw [cut_fst, List.takeWhile_append_of_pos hnoq]; exact List.mem_append_left _ hc)
  have htab : ∀ c ∈ hexEscapeNonASCII (sch ++ ':' :: '/' :: '/' :: auth ++ tail), isTabNl c = false :=
    hexEsc_tabnl _ fun c hc => ctl_tabnl c (by simpa using List.any_eq_false.mp hctl c hc)
  rw [hexEsc_append, hexEsc_ascii _ hXascii] at htab ⊢
  refine browse_abs base sch auth _ hchars hfirst hhttp hne hauthc ?_ htab
  -- a terminator is ASCII and stays in front
  cases tail with
  | nil => simp [hexEscapeNonASCII]
  | cons c t =>
    have hc := htail c rfl
    rw [hexEsc_cons c t (by simp [isTerm, Browser.isSep, ← Char.toNat_inj] at hc; omega)]
    rintro _ ⟨⟩; exact hc

end Ww.Proofs.C04A
