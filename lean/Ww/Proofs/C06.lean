import Ww.Proofs.C01
/-!
# C06 — No session outlives its maximum lifetime or its inactivity timeout

Over the regenerated metadata functions (`Ww.Gen`) and the handler model (`Ww.Model`): invariants over EVERY history of
login / request / manual and automatic refresh / passage of time, for every configuration and provider token lifetime.
-/
namespace Ww.Proofs.C06
open Ww.Gen Ww.Model Ww.Proofs.C01

/-- session invariant: the end is creation + max lifetime; with inactivity the timeout is last refresh + timeout and the token never outlives it -/
structure Inv (cfg : Cfg) (d : Data) : Prop where
  ends : d.Metadata.Session.EndsAt = d.Metadata.Session.CreatedAt + cfg.maxLifetime
  idleOn : cfg.inactivity > 0 → d.Metadata.Session.TimeoutAt = d.Metadata.Tokens.RefreshedAt + cfg.inactivity ∧
            d.Metadata.Tokens.ExpireAt ≤ d.Metadata.Session.TimeoutAt
  idleOff : ¬ cfg.inactivity > 0 → d.Metadata.Session.TimeoutAt = 0

/-- login establishes the invariant -/
theorem create_inv (cfg : Cfg) (a r i acr sid : String) (secs now : Int) : Inv cfg (createData cfg a r i acr sid secs now) := by
  unfold createData NewMetadata Metadata.WithTimeout
  by_cases h : cfg.inactivity > 0
  · constructor <;> simp [h] <;> (try split) <;> simp <;> omega
  · constructor <;> simp [h]

/-- a refresh preserves it: the session end and creation time never move, the timeout is re-armed from the refresh instant -/
theorem grant_inv (cfg : Cfg) (d : Data) (a r : String) (secs now : Int) (h : Inv cfg d) : Inv cfg (applyGrant cfg d a r secs now) := by
  obtain ⟨h1, h2, h3⟩ := h
  obtain ⟨he, hcr, hr, hon, hoff⟩ := applyGrant_metadata cfg d a r secs now _ rfl
  refine ⟨by rw [he, hcr, h1], fun hi => ?_, fun hi => by rw [(hoff hi).1, h3 hi]⟩
  rw [(hon hi).1, (hon hi).2, hr]
  omega

theorem grant_keeps_end (cfg : Cfg) (d : Data) (a r : String) (secs now : Int) :
    (applyGrant cfg d a r secs now).Metadata.Session.EndsAt = d.Metadata.Session.EndsAt ∧
    (applyGrant cfg d a r secs now).Metadata.Session.CreatedAt = d.Metadata.Session.CreatedAt :=
  ⟨(applyGrant_metadata cfg d a r secs now _ rfl).1, (applyGrant_metadata cfg d a r secs now _ rfl).2.1⟩

/-- how any handler step can change the store entry of a session: not at all, delete it, or replace it by a refresh of a VALIDATED record -/
inductive StoreStep (cfg : Cfg) (now : Int) : StoreSt → StoreSt → Prop where
  | same (s) : StoreStep cfg now s s
  | deleted (s) : StoreStep cfg now s .absent
  | refreshed (d a r secs) : d.Validate now = [] → canRefresh d now = true → StoreStep cfg now (.present d) (.present (applyGrant cfg d a r secs now))

section
variable (cfg : Cfg) (ck : CookieSt) (st : StoreSt) (plan : IdpPlan) (a r : String) (ign : Bool) (now : Int)

theorem refresh_step (d : Data) : StoreStep cfg now st (refresh cfg d st plan a r now).store := by
  rcases Sys.refreshF_cases cfg {} d st plan a r now _ (Sys.refreshF_nofault ..) with
    ⟨_, _, h⟩ | ⟨_, _, _, _, h⟩ | ⟨d2, secs, hst, hv, hc, _, _, _, _, h⟩ <;> rw [h]
  · exact .same _
  · exact .same _
  · rw [hst]; exact .refreshed d2 a r secs hv hc

theorem getSession_step : StoreStep cfg now st (getSession cfg ck st plan a r now).store := by
  rcases Sys.getSessionF_cases cfg {} ck st plan a r now _ (Sys.getSessionF_nofault ..) with
    ⟨_, _, _, h⟩ | ⟨_, _, d, hst, hv, ⟨_, _, h⟩ | ⟨secs, hc, _, _, _, _, h⟩⟩ <;> rw [h]
  · exact .same _
  · exact .same _
  · rw [hst]; exact .refreshed d a r secs hv hc

theorem proxy_step : StoreStep cfg now st (proxy cfg ck st plan a r ign now).store := by
  rcases Sys.proxyF_cases cfg {} ck st plan a r ign now _ (Sys.getSessionF_nofault ..) _ (Sys.proxyF_nofault ..) with
    ⟨_, _, _, _, _, _, h⟩ | h <;> rw [h] <;> exact getSession_step ..

theorem sessionRefresh_step : StoreStep cfg now st (sessionRefresh cfg ck st plan a r now).store := by
  unfold sessionRefresh
  dsimp only
  split
  · exact .same _
  · exact .same _
  · split <;> exact refresh_step ..

theorem forwardAuth_step : StoreStep cfg now st (forwardAuth cfg ck st plan a r now).store := by
  unfold forwardAuth
  dsimp only
  split
  · exact .same _
  · split <;> exact getSession_step ..

theorem logout_step : StoreStep cfg now st (logoutStore ck st now) := by
  unfold logoutStore
  split
  · exact .deleted _
  · exact .same _

end

/-- the store after any step still satisfies the invariant -/
theorem step_inv (cfg : Cfg) (now : Int) (s s' : StoreSt) (h : StoreStep cfg now s s')
    (hi : ∀ d, s = .present d → Inv cfg d) : ∀ d, s' = .present d → Inv cfg d := by
  cases h with
  | same => exact hi
  | deleted => intro d hd; cases hd
  | refreshed d0 a r secs hv hc =>
    intro d hd; cases hd
    exact grant_inv cfg d0 a r secs now (hi d0 rfl)

/-- events of a history as seen by one session's store entry -/
inductive Event where
  | login (a r i acr sid : String) (secs : Int)            -- a completed callback: Create
  | proxy (ck : CookieSt) (plan : IdpPlan) (a r : String) (ign : Bool)
  | manualRefresh (ck : CookieSt) (plan : IdpPlan) (a r : String)
  | forwardAuth (ck : CookieSt) (plan : IdpPlan) (a r : String)
  | info (ck : CookieSt)
  | logout (ck : CookieSt)
  | tick (d : Int)                                         -- passage of time (any amount, also negative: clock steps)

structure World where
  store : StoreSt
  now : Int

def stepW (cfg : Cfg) (w : World) : Event → World
  | .login a r i acr sid secs => { w with store := .present (createData cfg a r i acr sid secs w.now) }
  | .proxy ck plan a r ign => { w with store := (proxy cfg ck w.store plan a r ign w.now).store }
  | .manualRefresh ck plan a r => { w with store := (sessionRefresh cfg ck w.store plan a r w.now).store }
  | .forwardAuth ck plan a r => { w with store := (Ww.Model.forwardAuth cfg ck w.store plan a r w.now).store }
  | .info _ => w
  | .logout ck => { w with store := logoutStore ck w.store w.now }
  | .tick d => { w with now := w.now + d }

def run (cfg : Cfg) (w : World) (es : List Event) : World := es.foldl (stepW cfg) w

theorem stepW_inv (cfg : Cfg) (w : World) (e : Event) (hi : ∀ d, w.store = .present d → Inv cfg d) :
    ∀ d, (stepW cfg w e).store = .present d → Inv cfg d := by
  cases e with
  | login a r i acr sid secs => intro d hd; cases hd; exact create_inv ..
  | proxy ck plan a r ign => exact step_inv cfg w.now _ _ (proxy_step ..) hi
  | manualRefresh ck plan a r => exact step_inv cfg w.now _ _ (sessionRefresh_step ..) hi
  | forwardAuth ck plan a r => exact step_inv cfg w.now _ _ (forwardAuth_step ..) hi
  | info => exact hi
  | logout ck => exact step_inv cfg w.now _ _ (logout_step ..) hi
  | tick d => exact hi

/-- **C06 (invariant over histories).** After ANY sequence of logins, requests, refreshes, logouts and clock movements the stored session
    satisfies `Inv`: its end is creation + max lifetime however often it was refreshed. -/
theorem run_inv (cfg : Cfg) (es : List Event) (w : World) (hi : ∀ d, w.store = .present d → Inv cfg d) :
    ∀ d, (run cfg w es).store = .present d → Inv cfg d :=
  List.foldlRecOn es (stepW cfg) hi fun w hw e _ => stepW_inv cfg w e hw

/-- **C06 (never accepted after the end / the inactivity timeout).** In any reachable world, a request that is given a token is served no later
    than creation + max lifetime and, with inactivity on, no later than the last login/refresh + inactivity timeout. -/
theorem accepted_within_lifetime (cfg : Cfg) (es : List Event) (ck : CookieSt) (plan : IdpPlan) (a r : String) (ign : Bool) (t : String) :
    let w := run cfg ⟨.absent, 0⟩ es
    (proxy cfg ck w.store plan a r ign w.now).upAuth = some t →
    ∃ d, (proxy cfg ck w.store plan a r ign w.now).store = .present d ∧
      w.now ≤ d.Metadata.Session.CreatedAt + cfg.maxLifetime ∧
      (cfg.inactivity > 0 → d.Metadata.Session.TimeoutAt ≠ 0 → w.now ≤ d.Metadata.Tokens.RefreshedAt + cfg.inactivity) := by
  -- (`TimeoutAt ≠ 0`: Go encodes "no timeout" as the zero time, i.e. year 1; it cannot arise from `now + timeout` at any real clock value)
  intro w h
  obtain ⟨d, _, hst, hv, _, _⟩ := sound cfg ck w.store plan a r ign w.now t h
  have hinv0 : ∀ d, w.store = .present d → Inv cfg d := run_inv cfg es ⟨.absent, 0⟩ (by intro d hd; cases hd)
  have hinv := step_inv cfg w.now _ _ (proxy_step cfg ck w.store plan a r ign w.now) hinv0 d hst
  obtain ⟨_, h2, h3, _, _⟩ := hv
  refine ⟨d, hst, ?_, ?_⟩
  · rw [← hinv.ends]; omega
  · intro hi hne
    have := hinv.idleOn hi
    have hng : ¬ w.now > d.Metadata.Session.TimeoutAt := fun hg => h3 ⟨hne, hg⟩
    omega

/-- an ended session answers 401 on both session endpoints and is never refreshed -/
theorem ended_status (cfg : Cfg) (d : Data) (plan : IdpPlan) (a r : String) (now : Int) (h : now > d.Metadata.Session.EndsAt) (ha : d.AccessToken ≠ "") :
    (sessionInfo .valid (.present d) now).status = 401 ∧ (sessionRefresh cfg .valid (.present d) plan a r now).status = 401 ∧
    (sessionRefresh cfg .valid (.present d) plan a r now).contacted = false := by
  have hv : d.Validate now = ["ErrInvalid"] := by
    unfold Data.Validate Metadata.IsEnded
    have := (hasAccess_iff d now).mpr ha
    simp [this, h]
  have hve : validateErr d now = some .invalid := by unfold validateErr; rw [hv]; simp
  unfold sessionInfo sessionRefresh getSess
  simp [hve, statusOfErr]

/-- a merely inactive session is readable as inactive (200 on the info endpoint, which renders `active = false`) but not refreshable -/
theorem idle_status (cfg : Cfg) (d : Data) (plan : IdpPlan) (a r : String) (now : Int) (he : ¬ now > d.Metadata.Session.EndsAt)
    (hz : d.Metadata.Session.TimeoutAt ≠ 0) (ht : now > d.Metadata.Session.TimeoutAt) (ha : d.AccessToken ≠ "") :
    (sessionInfo .valid (.present d) now).status = 200 ∧ (sessionInfo .valid (.present d) now).body = some d ∧
    (d.Metadata.Verbose now).Session.Active = false ∧
    (sessionRefresh cfg .valid (.present d) plan a r now).status = 401 ∧ (sessionRefresh cfg .valid (.present d) plan a r now).contacted = false := by
  have hv : d.Validate now = ["ErrInvalid", "ErrInactive"] := by
    unfold Data.Validate Metadata.IsEnded Metadata.IsTimedOut
    have := (hasAccess_iff d now).mpr ha
    have h1 : ¬ d.Metadata.Session.EndsAt < now := by omega
    have h2 : d.Metadata.Session.TimeoutAt < now := by omega
    simp [this, hz, h1, h2]
  have hve : validateErr d now = some .inactive := by unfold validateErr; rw [hv]; simp
  have hact : (d.Metadata.Verbose now).Session.Active = false := by
    unfold Metadata.Verbose Metadata.IsTimedOut
    simp [hz]; omega
  unfold sessionInfo sessionRefresh getSess
  simp [hve, statusOfErr, hact]

/-- **a request that had to wait for the refresh lock judges the session again**: whatever the request saw when it started (`d`), if the re-read under the
    lock (`st`) finds the session ended, inactive, undecryptable or gone, no provider is contacted and nothing is written (session_manager.go:Refresh
    re-reads through the VALIDATING reader) -/
theorem waiting_request_revalidates (cfg : Cfg) (d : Data) (st : StoreSt) (plan : IdpPlan) (a r : String) (now : Int)
    (h : (getSess .valid st now).err ≠ none) :
    (refresh cfg d st plan a r now).contacted = false ∧ (refresh cfg d st plan a r now).store = st := by
  have hno : ∀ d2, st = .present d2 → d2.Validate now = [] → False := fun d2 hst hv =>
    h (by rw [hst]; exact (Sys.validateErr_eq_none d2 now).mpr hv)
  rcases Sys.refreshF_cases cfg {} d st plan a r now _ (Sys.refreshF_nofault ..) with
    ⟨_, _, hr⟩ | ⟨_, c, _, hc, hr⟩ | ⟨d2, _, hst, hv, _, _, _, _, _, hr⟩ <;> rw [hr]
  · exact ⟨rfl, rfl⟩
  · exact ⟨Bool.eq_false_iff.mpr fun hct => let ⟨d2, hst, hv, _⟩ := hc hct; hno d2 hst hv, rfl⟩
  · exact (hno d2 hst hv).elim

end Ww.Proofs.C06
