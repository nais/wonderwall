import Ww.Proofs.Sched
/-!
# C07 — Concurrent requests cause one refresh; no refresh token is presented twice

Two inductive invariants over the small-step model, for ANY number of processes of any kind and ANY schedule (within the lock lease): `Inv` says
who can be where - mutual exclusion, and what the lock holder knows of the entry at each program counter; `RInv` says which token generations can
be where. `Inv` survives crashes too (C05, C10 use that).
-/
namespace Ww.Proofs.C07
open Ww.Model.Sched Ww.Proofs.Sched

structure Inv (s : St) : Prop where
  mutex : ∀ p, inCrit (s.procs p).pc = true → s.lock = some p
  unlocked : ∀ v, s.sess = some v → v.owner = 0 → s.lock = none → v.gen = s.idpCur
  atReread : ∀ p v, (s.procs p).pc = .reread → s.sess = some v → v.owner = 0 → v.gen = s.idpCur
  atIdp : ∀ p, (s.procs p).pc = .idp → (s.procs p).rt = s.idpCur
  atUpdate : ∀ p, (s.procs p).pc = .update → (s.procs p).newGen = s.idpCur
  atUnlock : ∀ p v, (s.procs p).pc = .unlock → s.sess = some v → v.owner = 0 → v.gen = s.idpCur
  ttl : ∀ v, s.sess = some v → v.hasTtl = true
  -- a NEW login writes only under the lock (fix 078aa22), so between a refresher's re-read and its write-back the entry can only disappear:
  cl : s.createLocks = true
  ownIdp : ∀ p v, (s.procs p).pc = .idp → s.sess = some v → v.owner = 0
  ownUpdate : ∀ p v, (s.procs p).pc = .update → s.sess = some v → v.owner = 0


theorem inv_init (kinds : Pid → Kind) (g0 : Nat) : Inv (init kinds g0) := by
  constructor <;> simp [init, inCrit]

/-- What `Inv` asks of one process `q` with record `x`, given the lock `lk`, the entry `se` and the provider's generation `cur`: the assertion at
    its program counter. Outside the critical section it asks nothing. `Inv s` is this of every process, plus `unlocked`, `ttl` and `cl`. -/
def At (lk : Option Pid) (se : Option Sess) (cur : Nat) (q : Pid) (x : Proc) : Prop :=
  (inCrit x.pc = true → lk = some q) ∧
  match x.pc with
  | .reread | .unlock => ∀ v, se = some v → v.owner = 0 → v.gen = cur
  | .idp => x.rt = cur ∧ ∀ v, se = some v → v.owner = 0
  | .update => x.newGen = cur ∧ ∀ v, se = some v → v.owner = 0
  | _ => True

section
variable {s : St} {p q : Pid} {x : Proc} {lk : Option Pid} {se : Option Sess} {cur : Nat}

theorem At.outside (hx : inCrit x.pc = false) : At lk se cur q x := by
  unfold At
  generalize x.pc = c at hx
  cases c <;> simp [inCrit] at hx ⊢

theorem Inv.toAt (h : Inv s) (q : Pid) : At s.lock s.sess s.idpCur q (s.procs q) := by
  refine ⟨h.mutex q, ?_⟩
  split
  · exact fun v => h.atReread q v ‹_›
  · exact fun v => h.atUnlock q v ‹_›
  · exact ⟨h.atIdp q ‹_›, fun v => h.ownIdp q v ‹_›⟩
  · exact ⟨h.atUpdate q ‹_›, fun v => h.ownUpdate q v ‹_›⟩
  · trivial

theorem Inv.ofAt (cl : s.createLocks = true) (ttl : ∀ v, s.sess = some v → v.hasTtl = true)
    (unl : ∀ v, s.sess = some v → v.owner = 0 → s.lock = none → v.gen = s.idpCur) (loc : ∀ q, At s.lock s.sess s.idpCur q (s.procs q)) : Inv s where
  mutex p := (loc p).1
  unlocked := unl
  atReread p v hp := (hp ▸ (loc p).2 :) v
  atIdp p hp := (hp ▸ (loc p).2 :).1
  atUpdate p hp := (hp ▸ (loc p).2 :).1
  atUnlock p v hp := (hp ▸ (loc p).2 :) v
  ttl := ttl
  cl := cl
  ownIdp p v hp := (hp ▸ (loc p).2 :).2 v
  ownUpdate p v hp := (hp ▸ (loc p).2 :).2 v

/-- a step that leaves `p` outside the critical section and the globals alone -/
theorem Inv.outside_step (h : Inv s) (hx : inCrit x.pc = false) : Inv (setProc s p x) :=
  .ofAt h.cl h.ttl h.unlocked (forall_setProc (L := At s.lock s.sess s.idpCur) (.outside hx) fun q _ => h.toAt q)

/-- A step of the process that holds the lock, or that takes it while it is free. By `mutex` everybody else is outside the critical section, where
    `Inv` asks nothing: whatever the step does to the globals, only the global clauses and the assertion at `p`'s new program counter need showing. -/
theorem Inv.holder_step {pr : List Nat} (h : Inv s) (hl : s.lock = none ∨ s.lock = some p) (ttl : ∀ v, se = some v → v.hasTtl = true)
    (unl : lk = some p ∨ ∀ v, se = some v → v.owner = 0 → v.gen = cur) (self : At lk se cur p x) :
    Inv { sess := se, lock := lk, idpCur := cur, presented := pr, procs := (setProc s p x).procs, base := s.base, createLocks := s.createLocks } := by
  refine .ofAt h.cl ttl (fun v hv ho hn => unl.elim (fun e => nomatch e.symm.trans hn) (· v hv ho)) ?_
  refine forall_setProc (L := At lk se cur) self fun q hq => .outside (Bool.eq_false_iff.2 fun c => ?_)
  have := h.mutex q c
  rcases hl with hl | hl <;> simp [hl] at this
  exact hq this.symm

/-- every clause about a stored entry is void once it is deleted -/
theorem Inv.del (h : Inv s) : Inv { s with sess := none } :=
  ⟨h.mutex, nofun, nofun, h.atIdp, h.atUpdate, nofun, nofun, h.cl, nofun, nofun⟩

end

theorem inv_step (s : St) (p : Pid) (h : Inv s) : Inv (step s p).1 := by
  cases hpc : (s.procs p).pc <;> simp only [step, hpc]
  case start => exact h.outside_step (startNext_outside _)
  case get => exact h.outside_step (getNext_outside _ _)
  case code => exact h.outside_step (by simp [h.cl, inCrit])
  case lock =>
    split
    · -- taken: it was free, so `unlocked` describes the entry the re-read will find
      rename_i hl
      split
      · exact h.holder_step (.inl hl) h.ttl (.inl rfl) ⟨fun _ => rfl, trivial⟩
      · exact h.holder_step (.inl hl) h.ttl (.inl rfl) ⟨fun _ => rfl, fun v hv ho => h.unlocked v hv ho hl⟩
    · exact h
  case done => exact h
  case del => exact h.del.outside_step rfl
  -- the other steps are taken inside the critical section, so by the holder of the lock
  all_goals have hl := h.mutex p (hpc ▸ rfl)
  case write =>
    -- the new login's entry is not the old cookie's (owner ≠ 0)
    simp only [h.cl, if_true]
    exact h.holder_step (.inr hl) (fun v hv => by cases hv; rfl) (.inl hl) ⟨fun _ => hl, fun v hv ho => by cases hv; cases ho⟩
  case reread =>
    split
    · exact h.holder_step (.inr hl) h.ttl (.inl hl) ⟨fun _ => hl, fun v => h.atReread p v hpc⟩
    · rename_i v hv
      obtain ⟨hv, ho⟩ := mine_some hv
      split
      · exact h.holder_step (.inr hl) h.ttl (.inl hl) ⟨fun _ => hl, fun v => h.atReread p v hpc⟩
      · -- the token it takes to the provider is the stored one, which is current
        exact h.holder_step (.inr hl) h.ttl (.inl hl) ⟨fun _ => hl, h.atReread p v hpc hv ho, fun w hw => by cases hv.symm.trans hw; exact ho⟩
  case idp =>
    -- the token presented is the current one, so the grant is made and what it yields is the provider's new generation
    rw [if_pos (h.atIdp p hpc)]
    exact h.holder_step (.inr hl) h.ttl (.inl hl) ⟨fun _ => hl, rfl, fun v => h.ownIdp p v hpc⟩
  case update =>
    split
    · -- the write-back stores what the provider granted, and keeps the expiry
      rename_i v hv
      exact h.holder_step (.inr hl) (fun w hw => by cases hw; exact h.ttl v hv) (.inl hl) ⟨fun _ => hl, fun w hw _ => by cases hw; exact h.atUpdate p hpc⟩
    · rename_i hn
      exact h.holder_step (.inr hl) h.ttl (.inl hl) ⟨fun _ => hl, fun v hv => nomatch hn.symm.trans hv⟩
  case unlock =>
    -- what held of the entry at this point holds for whoever takes the lock next
    exact h.holder_step (.inr hl) h.ttl (.inr fun v => h.atUnlock p v hpc) ⟨nofun, trivial⟩

theorem inv_apply (s : St) (ev : Ev) (h : Inv s) : Inv (apply s ev) := by
  cases ev with
  | run p => exact inv_step s p h
  | crash p => exact h.outside_step rfl

theorem inv_runAll (s : St) (evs : List Ev) (h : Inv s) : Inv (runAll s evs) :=
  List.foldlRecOn evs apply h fun s h ev _ => inv_apply s ev h

theorem inv_run (s : St) (ps : List Pid) (h : Inv s) : Inv (ps.foldl (fun s p => (step s p).1) s) :=
  List.foldlRecOn ps _ h fun s h p _ => inv_step s p h

/-- the token generations in ONE process's record: the refresh token it takes to the provider is the one the schedule started with (`b`) - it read it off an
    entry not yet refreshed; what it saw at its first read and what it handed to the upstream lie between `b` and the provider's current one (`cur`) -/
def POk (b cur : Nat) (x : Proc) : Prop :=
  (x.pc = .idp → x.rt = b) ∧ ∀ g, x.seen = some g ∨ x.served = some g → b ≤ g ∧ g ≤ cur

/-- ranges, `b` being the generation the schedule started with: the provider has moved on once per presentation and at most once; the tokens presented
    are the generations it went through; what the old cookie can read lies in between, and is `b` unless it has been refreshed -/
structure RInv (b : Nat) (s : St) : Prop where
  seq : s.presented = List.range' b (s.idpCur - b)
  le : b ≤ s.idpCur ∧ s.idpCur ≤ b + 1
  sessR : ∀ v, mine s.sess = some v → b ≤ v.gen ∧ v.gen ≤ s.idpCur ∧ (v.fresh = false → v.gen = b)
  procsR : ∀ q, POk b s.idpCur (s.procs q)

theorem rinv_init (kinds : Pid → Kind) (g0 : Nat) : RInv g0 (init kinds g0) := by
  constructor <;> simp [init, mine, POk]

theorem rinv_step {b : Nat} (s : St) (p : Pid) (h : Inv s) (r : RInv b s) : RInv b (step s p).1 := by
  obtain ⟨hseq, hle, hsess, hprocs⟩ := r
  -- a token presented is the provider's current one (`Inv.atIdp`) and the one the schedule started with (`POk`): the provider grants only while
  -- it is still at `b`, hence once
  have hcur : (step s p).1.presented = s.presented ∧ (step s p).1.idpCur = s.idpCur ∨
      s.idpCur = b ∧ (step s p).1.presented = s.presented ++ [s.idpCur] ∧ (step s p).1.idpCur = s.idpCur + 1 := by
    by_cases hpc : (s.procs p).pc = .idp
    · exact .inr ⟨(h.atIdp p hpc).symm.trans ((hprocs p).1 hpc), step_idp_grant hpc (h.atIdp p hpc)⟩
    · exact .inl (step_idp_ne hpc)
  have hmono : s.idpCur ≤ (step s p).1.idpCur := by omega
  refine ⟨?_, by omega, fun v hv => ?_, fun q => ?_⟩
  · rcases hcur with ⟨e1, e2⟩ | ⟨e0, e1, e2⟩
    · rw [e1, e2, hseq]
    · rw [e1, e2, hseq, e0]; simp
  · rcases step_mine s p with e | e | ⟨w, hu, _, e⟩
    · obtain ⟨h1, h2, h3⟩ := hsess v (e ▸ hv)
      exact ⟨h1, by omega, h3⟩
    · rw [e] at hv; cases hv
    · -- the write-back stores what the provider granted
      have := h.atUpdate p hu
      rw [e] at hv
      cases hv
      simp
      omega
  · by_cases hq : q = p
    · subst hq
      refine ⟨fun hpc => ?_, fun g hg => ?_⟩
      · obtain ⟨v, hv, hf, e⟩ := step_reaches_idp hpc
        exact e.trans ((hsess v hv).2.2 hf)
      · rcases step_gens hg with e | ⟨v, hv, e⟩ | ⟨hu, e⟩
        · have := (hprocs q).2 g e; omega
        · have := hsess v hv; omega
        · have := h.atUpdate q hu; omega
    · rw [step_procs_other s hq]
      exact ⟨(hprocs q).1, fun g hg => by have := (hprocs q).2 g hg; omega⟩

theorem rinv_run (kinds : Pid → Kind) (g0 : Nat) (ps : List Pid) : RInv g0 (ps.foldl (fun s p => (step s p).1) (init kinds g0)) :=
  (List.foldlRecOn (motive := fun s => Inv s ∧ RInv g0 s) ps _ ⟨inv_init kinds g0, rinv_init kinds g0⟩ fun s h p _ =>
    ⟨inv_step s p h.1, rinv_step s p h.1 h.2⟩).2

/-- **mutual exclusion**: in every reachable state at most one process is between acquiring and releasing the refresh lock -/
theorem mutual_exclusion (kinds : Pid → Kind) (g0 : Nat) (ps : List Pid) (p q : Pid) :
    let s := ps.foldl (fun s p => (step s p).1) (init kinds g0)
    inCrit (s.procs p).pc = true → inCrit (s.procs q).pc = true → p = q := by
  intro s hp hq
  have h := inv_run _ ps (inv_init kinds g0)
  exact Option.some.inj ((h.mutex p hp).symm.trans (h.mutex q hq))

/-- **no refresh token is presented twice**, whatever the schedule and however many requests race -/
theorem token_presented_once (kinds : Pid → Kind) (g0 : Nat) (ps : List Pid) :
    (ps.foldl (fun s p => (step s p).1) (init kinds g0)).presented.Nodup :=
  (rinv_run kinds g0 ps).seq ▸ List.nodup_range' ..

/-- **concurrent requests cause ONE refresh**: whatever the number of racing requests (manual refreshes, proxied requests with a refresh due, readers,
    logouts) and whatever the schedule, the provider sees at most one refresh-token grant request for the session while the cooldown of the first
    one runs (a schedule is shorter than the cooldown) -/
theorem one_refresh (kinds : Pid → Kind) (g0 : Nat) (ps : List Pid) :
    (ps.foldl (fun s p => (step s p).1) (init kinds g0)).presented.length ≤ 1 := by
  have r := rinv_run kinds g0 ps
  rw [r.seq, List.length_range']
  have := r.le
  omega

/-- **every concurrent request is served with the previous or the new access token**: whatever the schedule and however many requests race, a proxied request that
    hands a token to the upstream hands the one the schedule started with or the one the (single) refresh of this schedule produced - never anything else -/
theorem served_previous_or_new (kinds : Pid → Kind) (g0 : Nat) (ps : List Pid) (p : Pid) (g : Nat) :
    let s := ps.foldl (fun s p => (step s p).1) (init kinds g0)
    (s.procs p).served = some g → g = g0 ∨ g = g0 + 1 := by
  intro s hg
  have r := rinv_run kinds g0 ps
  have h1 := (r.procsR p).2 g (.inr hg)
  have h2 := r.le
  omega

/-- every presentation is accepted by the provider (the token presented is the current one): no request is logged out by a lost race -/
theorem every_grant_succeeds (s : St) (p : Pid) (h : Inv s) (hpc : (s.procs p).pc = .idp) : ((step s p).1.procs p).pc = .update := by
  have hrt := h.atIdp p hpc
  unfold step
  simp [hpc, hrt]

/-- the stored pair is always one the provider issued together: the stored generation is the provider's current one whenever nobody is inside
    the critical section -/
theorem stored_pair_is_current (kinds : Pid → Kind) (g0 : Nat) (ps : List Pid) :
    let s := ps.foldl (fun s p => (step s p).1) (init kinds g0)
    ∀ v, s.sess = some v → v.owner = 0 → s.lock = none → v.gen = s.idpCur :=
  fun v hv ho hl => (inv_run _ ps (inv_init kinds g0)).unlocked v hv ho hl

-- non-vacuity: two refreshers and a proxied request interleaved; exactly one grant
example : let s := [0, 1, 2, 0, 1, 0, 1, 2, 0, 0, 1, 2, 0, 1, 1, 2, 2, 2, 0, 1, 2, 0, 1, 2, 0, 1, 2, 2, 2, 2].foldl (fun s p => (step s p).1) (init (fun p => if p = 2 then .proxy else .refresh) 0)
    s.presented = [0] ∧ s.sess = some ⟨1, true, true, 0⟩ ∧ s.lock = none ∧ (s.procs 0).status = 200 ∧ (s.procs 1).status = 200 ∧ (s.procs 2).status = 200 := by decide

-- non-vacuity of `served_previous_or_new`: process 2 (proxied) is served the NEW token after refresher 0's write-back; process 3 (proxied), whose refresh finds the
-- entry gone after a logout (process 1), falls back to the PREVIOUS token it read first
example : let s := [0, 0, 0, 0, 0, 0, 0, 2, 2].foldl (fun s p => (step s p).1) (init (fun p => if p = 2 then .proxy else .refresh) 5)
    (s.procs 2).served = some 6 ∧ (s.procs 2).status = 200 := by decide

example : let s := [3, 3, 1, 1, 1, 3, 3, 3].foldl (fun s p => (step s p).1) (init (fun p => if p = 1 then .logoutLocal else .proxy) 5)
    (s.procs 3).served = some 5 ∧ s.sess = none ∧ s.presented = [] := by decide

end Ww.Proofs.C07
