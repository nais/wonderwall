import Ww.Proofs.Sys
import Ww.Proofs.C07
/-!
# C08 — Automatic refresh follows the documented schedule, cooldown and mode rules

Property theorems over the definitions REGENERATED from `pkg/session/data.go` (`Ww.Gen`).
Time is `Int` nanoseconds, `now` is explicit (H-CLOCK), Go's `/` is `Int.tdiv`.
-/
namespace Ww.Proofs.C08
open Ww.Gen

/-- five minutes / one minute, as literals: the theorems below fail to check if the source constants move -/
def fiveMin : Int := 300000000000
def oneMin : Int := 60000000000

/-- the documented earliest instant of an automatic refresh of an unexpired token -/
def earliest (m : Metadata) : Int :=
  if m.Session.TimeoutAt = 0 then m.Tokens.ExpireAt - fiveMin
  else min (m.Tokens.ExpireAt - fiveMin) (m.Tokens.RefreshedAt + (m.Session.TimeoutAt - m.Tokens.RefreshedAt) / 2)

/-- a refresh is due once the token has expired, or, the cooldown being over, once the leeway before expiry or the half-way point to
    the inactivity timeout has passed -/
theorem shouldRefresh_iff (m : Metadata) (now : Int) :
    m.ShouldRefresh now = true ↔ now > m.Tokens.ExpireAt ∨ (now > m.RefreshCooldown now ∧
      (now > m.Tokens.ExpireAt - RefreshLeeway ∨
        (m.Session.TimeoutAt ≠ 0 ∧ now > m.Tokens.RefreshedAt + (m.Session.TimeoutAt - m.Tokens.RefreshedAt).tdiv 2))) := by
  unfold Metadata.ShouldRefresh Metadata.IsExpired Metadata.IsRefreshOnCooldown Metadata.NextRefresh RefreshLeeway
  simp only [Bool.not_eq_true', decide_eq_false_iff_not, decide_eq_true_eq, Bool.if_true_left, Bool.if_false_left,
    Bool.or_eq_true, Bool.and_eq_true, ite_not]
  -- with the end of the cooldown and the half-way term as opaque values, what is left is linear arithmetic under nested `if`s
  generalize m.RefreshCooldown now = cd
  generalize (m.Session.TimeoutAt - m.Tokens.RefreshedAt).tdiv 2 = half
  omega

/-- always once the token has expired -/
theorem refresh_when_expired (m : Metadata) (now : Int) (h : m.IsExpired now = true) : m.ShouldRefresh now = true := by
  unfold Metadata.ShouldRefresh; simp [h]

/-- never while the cooldown is running (for an unexpired token) -/
theorem no_refresh_on_cooldown (m : Metadata) (now : Int) (hs : m.ShouldRefresh now = true)
    (he : m.IsExpired now = false) : m.IsRefreshOnCooldown now = false := by
  unfold Metadata.ShouldRefresh at hs
  simp [he] at hs
  cases hc : m.IsRefreshOnCooldown now <;> simp [hc] at hs ⊢

/-- never earlier than five minutes before expiry, or the half-way point to the inactivity timeout when that is sooner -/
theorem not_early (m : Metadata) (now : Int) (hs : m.ShouldRefresh now = true) (he : m.IsExpired now = false)
    (hto : m.Session.TimeoutAt = 0 ∨ m.Tokens.RefreshedAt ≤ m.Session.TimeoutAt) :
    now > earliest m := by
  have hs := (shouldRefresh_iff m now).mp hs
  -- Go halves the distance with truncating division, `earliest` with `/`: they agree as the distance is not negative (`hto`)
  have := @Int.tdiv_eq_ediv_of_nonneg (m.Session.TimeoutAt - m.Tokens.RefreshedAt) 2
  unfold Metadata.IsExpired at he
  unfold RefreshLeeway at hs
  unfold earliest fiveMin
  simp only [decide_eq_false_iff_not] at he
  split <;> omega

/-- the cooldown is at most one minute, never negative, and shorter for short-lived tokens: it never outlasts the token -/
theorem cooldown_bound (m : Metadata) (now : Int) (h : 0 ≤ m.TokenLifetime now) :
    m.Tokens.RefreshedAt ≤ m.RefreshCooldown now ∧ m.RefreshCooldown now ≤ m.Tokens.RefreshedAt + oneMin ∧
    m.RefreshCooldown now ≤ m.Tokens.ExpireAt ∧ (1 ≤ m.TokenLifetime now → m.RefreshCooldown now < m.Tokens.ExpireAt) := by
  have := Int.tdiv_eq_ediv_of_nonneg (b := 2) h
  unfold Metadata.RefreshCooldown RefreshMinInterval oneMin
  unfold Metadata.TokenLifetime at *
  simp only []
  split <;> rename_i hc <;> simp at hc <;> omega

/-- an expired token is never on cooldown, so `refresh_when_expired` is never blocked by the cooldown -/
theorem expired_not_cooling (m : Metadata) (now : Int) (h : 0 ≤ m.TokenLifetime now) (he : m.IsExpired now = true) :
    m.IsRefreshOnCooldown now = false := by
  have hb := cooldown_bound m now h
  unfold Metadata.IsExpired at he
  unfold Metadata.IsRefreshOnCooldown
  simp at he ⊢
  omega

/-- a session that keeps being used always gets a refresh opportunity before its token expires -/
theorem refresh_opportunity (m : Metadata) (now : Int) (h : 1 ≤ m.TokenLifetime now) :
    ∃ t, m.IsExpired t = false ∧ m.ShouldRefresh t = true ∧ m.IsRefreshOnCooldown t = false := by
  have hb := cooldown_bound m now (by omega)
  have hcd : m.RefreshCooldown m.Tokens.ExpireAt = m.RefreshCooldown now := by
    unfold Metadata.RefreshCooldown Metadata.TokenLifetime; rfl
  refine ⟨m.Tokens.ExpireAt, ?_, ?_, ?_⟩
  · unfold Metadata.IsExpired; simp
  · have : 0 < RefreshLeeway := by decide
    exact (shouldRefresh_iff ..).mpr (.inr ⟨by rw [hcd]; exact hb.2.2.2 h, .inl (by omega)⟩)
  · unfold Metadata.IsRefreshOnCooldown
    rw [hcd]; simp; exact Int.le_of_lt (hb.2.2.2 h)

/-- `toSeconds` is truncation to whole seconds, clamped at zero -/
theorem toSeconds_spec (d now : Int) : toSeconds d now = if d < 1000000000 then 0 else d / 1000000000 := by
  unfold toSeconds
  simp only []
  by_cases h : 0 ≤ d
  · rw [Int.tdiv_eq_ediv_of_nonneg h]
    split <;> split <;> rename_i h1 h2 <;> simp at h1 <;> omega
  · have : d.tdiv 1000000000 ≤ 0 := by
      have h1 := Int.tdiv_nonneg (a := -d) (b := 1000000000) (by omega) (by omega)
      rw [show d = -(-d) by omega, Int.neg_tdiv]; omega
    simp [this]; omega

/-- the session metadata endpoint reports values consistent with the predicates that drive the behaviour -/
theorem verbose_consistent (m : Metadata) (now : Int) :
    let v := m.Verbose now
    v.Session.Active = !m.IsTimedOut now ∧
    v.Tokens.RefreshCooldown = m.IsRefreshOnCooldown now ∧
    v.Tokens.ExpireInSeconds = toSeconds (m.Tokens.ExpireAt - now) now ∧
    v.Tokens.RefreshCooldownSeconds = toSeconds (m.RefreshCooldown now - now) now ∧
    v.Tokens.NextAutoRefreshInSeconds = toSeconds (m.NextRefresh now - now) now ∧
    v.Session.EndsInSeconds = toSeconds (m.Session.EndsAt - now) now ∧
    (m.Session.TimeoutAt = 0 → v.Session.TimeoutInSeconds = -1) ∧
    (m.Session.TimeoutAt ≠ 0 → v.Session.TimeoutInSeconds = toSeconds (m.Session.TimeoutAt - now) now) ∧
    v.Session.MetadataSession = m.Session ∧ v.Tokens.MetadataTokens = m.Tokens := by
  unfold Metadata.Verbose
  dsimp only
  split <;> simp_all

/-- reported "refresh cooldown = false" on a refreshable, unexpired … session means a manual refresh is allowed:
    the flag is exactly the predicate `canRefresh` consults -/
theorem verbose_cooldown_seconds_zero_iff (m : Metadata) (now : Int) :
    (m.Verbose now).Tokens.RefreshCooldownSeconds = 0 ↔ m.RefreshCooldown now - now < 1000000000 := by
  have := (verbose_consistent m now).2.2.2.1
  rw [this, toSeconds_spec]
  split <;> omega

-- non-vacuity: concrete metadata meeting the hypotheses (10 min token, refreshed at t=1000 s, inactivity 30 min)
def sample : Metadata := { Session := { CreatedAt := 1000000000000, EndsAt := 37000000000000, TimeoutAt := 2800000000000 },
                           Tokens := { ExpireAt := 1600000000000, RefreshedAt := 1000000000000 } }
example : sample.ShouldRefresh 1310000000000 = true ∧ sample.IsExpired 1310000000000 = false ∧
          (sample.Session.TimeoutAt = 0 ∨ sample.Tokens.RefreshedAt ≤ sample.Session.TimeoutAt) ∧ 1 ≤ sample.TokenLifetime 0 := by decide
example : sample.ShouldRefresh 1299000000000 = false := by decide


/-! ## mode rules and "never" rules, over the handler model -/
open Ww.Model

/-- automatic refresh happens only where it is available: never in an SSO proxy, never in SSO mode without forward-auth -/
theorem auto_refresh_modes (cfg : Cfg) (ck : CookieSt) (st : StoreSt) (plan : IdpPlan) (a r : String) (now : Int)
    (h : (getSession cfg ck st plan a r now).contacted = true) : cfg.mode ≠ .ssoProxy ∧ cfg.autoRefreshDisabled = false := by
  unfold getSession at h
  split at h
  · dsimp only at h; split at h <;> simp at h
  · rename_i hm; simp at hm; exact hm

/-- the read-only session endpoint never refreshes -/
theorem info_never_refreshes (ck : CookieSt) (st : StoreSt) (now : Int) : (sessionInfo ck st now).contacted = false ∧ (sessionInfo ck st now).store = st := by
  unfold sessionInfo; dsimp only; repeat' split
  all_goals exact ⟨rfl, rfl⟩

theorem canRefresh_iff (d : Data) (now : Int) :
    canRefresh d now = true ↔ d.RefreshToken ≠ "" ∧ d.Metadata.IsRefreshOnCooldown now = false := by
  unfold canRefresh Data.HasRefreshToken
  simp [← String.length_eq_zero_iff]
  omega

/-- whenever any handler contacts the provider for a refresh, the stored session is live (not ended, not inactive, has an access token),
    has a refresh token and its cooldown is over -/
theorem contact_needs_refreshable (cfg : Cfg) (d0 d : Data) (plan : IdpPlan) (a r : String) (now : Int)
    (h : (refresh cfg d0 (.present d) plan a r now).contacted = true) :
    d.Validate now = [] ∧ d.RefreshToken ≠ "" ∧ d.Metadata.IsRefreshOnCooldown now = false := by
  have ⟨hv, hc⟩ : d.Validate now = [] ∧ canRefresh d now = true := by
    rcases Sys.refreshF_cases cfg {} d0 (.present d) plan a r now _ (Sys.refreshF_nofault ..) with
      ⟨_, _, hr⟩ | ⟨_, _, _, hc, hr⟩ | ⟨_, _, hst, hv, hc, _, _, _, _, hr⟩ <;> rw [hr] at h
    · cases h
    · obtain ⟨_, hst, hv, hc⟩ := hc h; cases hst; exact ⟨hv, hc⟩
    · cases hst; exact ⟨hv, hc⟩
  exact ⟨hv, (canRefresh_iff d now).mp hc⟩

/-- the automatic path contacts the provider only when the schedule says a refresh is due -/
theorem auto_contact_due (cfg : Cfg) (d : Data) (plan : IdpPlan) (a r : String) (now : Int)
    (h : (getOrRefresh cfg .valid (.present d) plan a r now).contacted = true) : d.Metadata.ShouldRefresh now = true := by
  unfold getOrRefresh getSess at h
  cases hve : validateErr d now <;> simp [hve] at h
  by_cases hs : shouldRefresh d now
  · exact hs
  · simp [hs] at h

/-- manual refresh is idempotent during cooldown: 200, same metadata, store and provider untouched -/
theorem manual_refresh_idempotent (cfg : Cfg) (d : Data) (plan : IdpPlan) (a r : String) (now : Int)
    (hv : d.Validate now = []) (hc : d.Metadata.IsRefreshOnCooldown now = true) :
    sessionRefresh cfg .valid (.present d) plan a r now = ⟨200, .present d, false, false, some d⟩ := by
  have hve := (Sys.validateErr_eq_none d now).mpr hv
  have hcr : canRefresh d now = false := by unfold canRefresh; simp [hc]
  unfold sessionRefresh refresh getSess
  simp [hve, hcr]

/-- an expired token on a live, refreshable session IS refreshed by a proxied request where auto-refresh is available -/
theorem expired_is_refreshed (cfg : Cfg) (d : Data) (plan : IdpPlan) (a r : String) (now : Int)
    (hm : cfg.mode ≠ .ssoProxy) (ha : cfg.autoRefreshDisabled = false)
    (hv : d.Validate now = []) (he : d.Metadata.IsExpired now = true) (hr : d.RefreshToken ≠ "") (hl : 0 ≤ d.Metadata.TokenLifetime now) :
    (getSession cfg .valid (.present d) plan a r now).contacted = true := by
  have hve := (Sys.validateErr_eq_none d now).mpr hv
  have hsr : shouldRefresh d now = true := refresh_when_expired d.Metadata now he
  have hcr := (canRefresh_iff d now).mpr ⟨hr, expired_not_cooling d.Metadata now hl he⟩
  unfold getSession getOrRefresh refresh getSess
  simp [hm, ha, hve, hsr, hcr]
  cases plan <;> simp [SessErr.isInvalid]

/-- **never during the cooldown, also under concurrency**: in the interleaving model (any number of racing requests of any kind, any schedule)
    the refresh performed first puts the stored pair on cooldown, and no later step of any process - including the ones that had already decided to
    refresh before the first grant and were waiting for the lock - is a provider call. (`Ww.Proofs.C07.one_refresh` read as a C08 statement: the
    re-check under the lock is what makes the cooldown rule hold for requests that raced.) -/
theorem no_grant_on_cooldown_concurrent (kinds : Ww.Model.Sched.Pid → Ww.Model.Sched.Kind) (g0 : Nat) (ps : List Ww.Model.Sched.Pid) :
    (ps.foldl (fun s p => (Ww.Model.Sched.step s p).1) (Ww.Model.Sched.init kinds g0)).presented.length ≤ 1 :=
  Ww.Proofs.C07.one_refresh kinds g0 ps

end Ww.Proofs.C08
