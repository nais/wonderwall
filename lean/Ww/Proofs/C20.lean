import Ww.Model.Config
/-!
# C20 — Start-up refuses incomplete or unsafe configuration instead of running degraded
-/
namespace Ww.Proofs.C20
open Ww.Model

/-- the documented rules (docs/configuration.md and the property text), as one declarative statement -/
structure Documented (c : StartCfg) : Prop where
  key : c.key = .absent ∨ c.key = .bytes 32
  ingress : c.ingresses ≠ [] ∧ ∀ i ∈ c.ingresses, i.parses = true ∧ i.hasHost = true ∧ (i.scheme = "http" ∨ i.scheme = "https")
  openid : (c.sso = true ∧ c.ssoMode = .proxy) ∨
           ((c.clientJwk = .valid ∨ (c.clientJwk = .absent ∧ c.clientSecret = true)) ∧ c.providerName = true ∧ c.clientId = true ∧ c.wellKnown = true ∧
            c.discoveryReachable = true ∧ c.algInDiscovery = true ∧ (c.acr = true → c.acrInDiscovery = true) ∧ (c.locale = true → c.localeInDiscovery = true))
  sso : c.sso = true → c.redis = true ∧ c.ssoCookieName = true ∧
        ((c.ssoMode = .proxy ∧ c.ssoServerUrlParses = true) ∨ (c.ssoMode = .server ∧ c.ssoDomain = true ∧ c.ssoDefaultRedirectParses = true))
  store : c.redis = true → c.redisReachable = true
  cookies : c.sameSiteValid = true ∧ (c.cookieSecure = false → ∀ i ∈ c.ingresses, i.hostname = "localhost" ∧ i.scheme = "http")
  upstream : (c.upstreamIp = false ∧ c.upstreamPort = 0) ∨ (c.upstreamIp = true ∧ 1 ≤ c.upstreamPort ∧ c.upstreamPort ≤ 65535)
  shutdown : c.waitBefore < c.graceful
  alg : c.algIsJwa = true

/-! ## each check of the chain, in the words of the documentation -/

theorem keyOk_iff (c : StartCfg) : keyOk c = true ↔ c.key = .absent ∨ c.key = .bytes 32 := by
  unfold keyOk; cases c.key <;> simp

theorem ingressesOk_iff (c : StartCfg) : ingressesOk c = true ↔
    c.ingresses ≠ [] ∧ ∀ i ∈ c.ingresses, i.parses = true ∧ i.hasHost = true ∧ (i.scheme = "http" ∨ i.scheme = "https") := by
  simp [ingressesOk, ingressOk, and_assoc]

theorem storeOk_iff (c : StartCfg) : storeOk c = true ↔ (c.redis = true → c.redisReachable = true) := by
  unfold storeOk; cases c.redis <;> simp

theorem openidOk_iff (c : StartCfg) : openidOk c = true ↔
    (c.clientJwk = .valid ∨ (c.clientJwk = .absent ∧ c.clientSecret = true)) ∧ c.providerName = true ∧ c.clientId = true ∧ c.wellKnown = true ∧
    c.discoveryReachable = true ∧ c.algInDiscovery = true ∧ (c.acr = true → c.acrInDiscovery = true) ∧ (c.locale = true → c.localeInDiscovery = true) := by
  unfold openidOk; cases c.clientJwk <;> simp <;> grind

theorem ssoOk_iff (c : StartCfg) : ssoOk c = true ↔ (c.sso = true → c.redis = true ∧ c.ssoCookieName = true ∧
    ((c.ssoMode = .proxy ∧ c.ssoServerUrlParses = true) ∨ (c.ssoMode = .server ∧ c.ssoDomain = true ∧ c.ssoDefaultRedirectParses = true))) := by
  unfold ssoOk; cases c.sso <;> cases c.ssoMode <;> simp [and_assoc]

theorem upstreamOk_iff (c : StartCfg) : upstreamOk c = true ↔
    (c.upstreamIp = false ∧ c.upstreamPort = 0) ∨ (c.upstreamIp = true ∧ 1 ≤ c.upstreamPort ∧ c.upstreamPort ≤ 65535) := by
  unfold upstreamOk; cases c.upstreamIp <;> simp <;> omega

theorem cookieOk_iff (c : StartCfg) : cookieOk c = true ↔ c.sameSiteValid = true ∧
    (c.cookieSecure = false → ∀ i ∈ c.ingresses, i.parses = true ∧ i.hostname = "localhost" ∧ i.scheme = "http") := by
  unfold cookieOk; cases c.cookieSecure <;> simp [and_assoc]

/-- `run()` is the conjunction of its checks: the late tests of the two branches (`ssoServerUrlParses` for a proxy, `ssoDefaultRedirectParses` for a server)
    repeat what `SSO.Validate` established, and a mode other than proxy / server did not pass it -/
theorem startOk_checks (c : StartCfg) : startOk c = true ↔ validateOk c = true ∧ keyOk c = true ∧ ingressesOk c = true ∧ storeOk c = true ∧
    ((c.sso = true ∧ c.ssoMode = .proxy) ∨ openidOk c = true) := by
  have hs := ssoOk_iff c
  simp only [startOk, validateOk, Bool.and_eq_true] at *
  by_cases hp : c.sso = true ∧ c.ssoMode = .proxy <;> simp [hp] <;> grind

/-- **C20.** The process reaches its listening socket if and only if the configuration satisfies every documented rule -/
theorem startOk_iff (c : StartCfg) : startOk c = true ↔ Documented c := by
  rw [startOk_checks]; unfold validateOk
  simp only [Bool.and_eq_true, decide_eq_true_eq, cookieOk_iff, ssoOk_iff, upstreamOk_iff, keyOk_iff, ingressesOk_iff, storeOk_iff, openidOk_iff]
  constructor
  · rintro ⟨⟨⟨⟨⟨hc, ha⟩, hs⟩, hu⟩, hg⟩, hk, hi, hst, ho⟩
    exact ⟨hk, hi, ho, hs, hst, ⟨hc.1, fun h i him => (hc.2 h i him).2⟩, hu, hg, ha⟩
  · rintro ⟨hk, hi, ho, hs, hst, hc, hu, hg, ha⟩
    -- cookie.go parses each ingress again inside its loop; that it parses is the ingress rule
    exact ⟨⟨⟨⟨⟨⟨hc.1, fun h i him => ⟨(hi.2 i him).1, hc.2 h i him⟩⟩, ha⟩, hs⟩, hu⟩, hg⟩, hk, hi, hst, ho⟩

/-- **C20 (sound).** The process reaches its listening socket only with a configuration satisfying every documented rule -/
theorem starts_only_if_documented (c : StartCfg) (h : startOk c = true) : Documented c := (startOk_iff c).mp h

/-- **C20 (complete).** A configuration satisfying all documented rules does start -/
theorem documented_starts (c : StartCfg) (d : Documented c) : startOk c = true := (startOk_iff c).mpr d

-- non-vacuity: a minimal valid standalone configuration, and a valid SSO proxy without any OpenID client settings
def https (h : String) : IngressSt := ⟨true, "https", true, h⟩
example : startOk { ingresses := [https "app.example.com"] } = true ∧
          startOk { ingresses := [https "app.example.com"], sso := true, ssoMode := .proxy, redis := true, ssoCookieName := true, ssoServerUrlParses := true,
                    clientId := false, clientJwk := .absent, wellKnown := false } = true ∧
          startOk { ingresses := [https "app.example.com"], key := .bytes 16 } = false ∧
          startOk { ingresses := [https "app.example.com"], cookieSecure := false } = false ∧
          startOk { ingresses := [⟨true, "http", true, "localhost"⟩], cookieSecure := false } = true := by decide

end Ww.Proofs.C20
