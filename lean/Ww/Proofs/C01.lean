import Ww.Proofs.Sys
/-!
# C01 — Upstream gets a bearer token only for a valid session, and it is that session's

Theorems about `Ww.Model.proxy` for EVERY cookie state, store state, provider answer, configuration and clock value
(so in particular for every state reachable by any history of login / request / refresh / logout / passage of time).
-/
namespace Ww.Proofs.C01
open Ww.Gen Ww.Model

/-- the property's notion of "a session that at that moment existed in the store, had not ended, had not timed out,
    held an unexpired access token and satisfied the configured authentication level" -/
def ValidSession (cfg : Cfg) (d : Data) (now : Int) : Prop :=
  d.AccessToken ≠ "" ∧ ¬ now > d.Metadata.Session.EndsAt ∧
  ¬ (d.Metadata.Session.TimeoutAt ≠ 0 ∧ now > d.Metadata.Session.TimeoutAt) ∧
  ¬ now > d.Metadata.Tokens.ExpireAt ∧ (cfg.acr = "" ∨ acrValid cfg.acr d.Acr = true)

theorem hasAccess_iff (d : Data) (now : Int) : d.HasAccessToken now = true ↔ d.AccessToken ≠ "" := by
  unfold Data.HasAccessToken
  simp [← String.length_eq_zero_iff]
  omega

theorem validate_nil_iff (d : Data) (now : Int) :
    d.Validate now = [] ↔ d.AccessToken ≠ "" ∧ ¬ now > d.Metadata.Session.EndsAt ∧
      ¬ (d.Metadata.Session.TimeoutAt ≠ 0 ∧ now > d.Metadata.Session.TimeoutAt) := by
  rw [← hasAccess_iff d now]
  unfold Data.Validate Metadata.IsEnded Metadata.IsTimedOut
  cases d.HasAccessToken now <;> simp
  split
  · simp; omega
  · split <;> simp <;> omega

theorem accessToken_some (d : Data) (now : Int) (t : String) :
    accessToken d now = some t ↔ t = d.AccessToken ∧ d.AccessToken ≠ "" ∧ ¬ now > d.Metadata.Tokens.ExpireAt := by
  have ha := hasAccess_iff d now
  unfold accessToken Data.HasActiveAccessToken Metadata.IsExpired
  cases h1 : d.HasAccessToken now <;> simp [h1] at ha ⊢
  · exact fun _ h => absurd ha h
  · simp [ha, eq_comm, and_comm]

/-- every session that `getSession` returns without error is the one now in the store and passes Validate -/
theorem getSession_ok (cfg : Cfg) (ck : CookieSt) (st : StoreSt) (plan : IdpPlan) (a r : String) (now : Int) (d : Data)
    (hs : (getSession cfg ck st plan a r now).sess = some d) (he : (getSession cfg ck st plan a r now).err = none) :
    ck = .valid ∧ ((getSession cfg ck st plan a r now).store = .present d) ∧
    (d.Validate now = [] ∨ (getSession cfg ck st plan a r now).granted = true) := by
  rcases Sys.getSessionF_cases cfg {} ck st plan a r now _ (Sys.getSessionF_nofault ..) with
    ⟨e, c, g, h⟩ | ⟨hck, -, d0, hst, hv, ⟨c, g, h⟩ | ⟨secs, -, -, -, -, -, h⟩⟩ <;> rw [h] at hs he ⊢
  · cases he
  · cases hs; exact ⟨hck, hst, .inl hv⟩
  · cases hs; exact ⟨hck, rfl, .inr rfl⟩

/-- the metadata after a grant: end and creation never move, the token runs `secs` seconds from now; with inactivity on, the timeout
    is re-armed from now and caps the token -/
theorem applyGrant_metadata (cfg : Cfg) (d : Data) (a r : String) (secs now : Int) (m : Metadata)
    (hm : (applyGrant cfg d a r secs now).Metadata = m) :
    m.Session.EndsAt = d.Metadata.Session.EndsAt ∧ m.Session.CreatedAt = d.Metadata.Session.CreatedAt ∧ m.Tokens.RefreshedAt = now ∧
    (cfg.inactivity > 0 → m.Session.TimeoutAt = now + cfg.inactivity ∧
      m.Tokens.ExpireAt = min (now + secs * 1000000000) (now + cfg.inactivity)) ∧
    (¬ cfg.inactivity > 0 → m.Session.TimeoutAt = d.Metadata.Session.TimeoutAt ∧ m.Tokens.ExpireAt = now + secs * 1000000000) := by
  subst hm
  unfold applyGrant Metadata.Refresh Metadata.WithTimeout
  by_cases h : cfg.inactivity > 0 <;> simp only [h, if_true, if_false, decide_eq_true_eq]
  · split <;> simp <;> omega
  · simp

/-- a grant for a session that is neither ended nor idle yields one that is neither -/
theorem applyGrant_live (cfg : Cfg) (d : Data) (a r : String) (secs now : Int) (h : d.Validate now = []) :
    ¬ now > (applyGrant cfg d a r secs now).Metadata.Session.EndsAt ∧
    ¬ ((applyGrant cfg d a r secs now).Metadata.Session.TimeoutAt ≠ 0 ∧ now > (applyGrant cfg d a r secs now).Metadata.Session.TimeoutAt) := by
  obtain ⟨he, -, -, hon, hoff⟩ := applyGrant_metadata cfg d a r secs now _ rfl
  obtain ⟨-, hend, hidle⟩ := (validate_nil_iff d now).mp h
  by_cases hi : cfg.inactivity > 0
  · rw [he, (hon hi).1]; omega
  · rw [he, (hoff hi).1]; exact ⟨hend, hidle⟩

/-- **C01 (soundness) and C11 (fail closed), whatever faults occur.** Whenever the upstream receives an Authorization header written by
    wonderwall, the request carried a decryptable ticket, its lookup did not fail, the store (after this request) holds a session for it
    that has not ended, has not timed out, has an unexpired non-empty access token and satisfies the configured level, and the header is
    that session's access token; the ID-token header, when enabled, is that session's ID token. That session is the one this request
    read from the store, or the grant for it that this request stored with no fault on the way. -/
theorem soundF (cfg : Cfg) (fl : Faults) (ck : CookieSt) (st : StoreSt) (plan : IdpPlan) (a r : String) (ign : Bool) (now : Int) (t : String)
    (h : (proxyF cfg fl ck st plan a r ign now).upAuth = some t) :
    ck = .valid ∧ fl.read = false ∧ ∃ d, (proxyF cfg fl ck st plan a r ign now).store = .present d ∧ ValidSession cfg d now ∧
      t = d.AccessToken ∧ (proxyF cfg fl ck st plan a r ign now).upIdToken = (if cfg.includeIdToken then some d.IDToken else none) ∧
      (st = .present d ∨ ∃ d0 secs, st = .present d0 ∧ d = applyGrant cfg d0 a r secs now ∧ plan = .ok secs ∧
        fl.lock = false ∧ fl.reread = false ∧ fl.update = false) := by
  rcases Sys.proxyF_cases cfg fl ck st plan a r ign now _ rfl _ rfl with ⟨d, t', he, hs, hat, hacr, hp⟩ | hp <;> rw [hp] at h ⊢
  case inr => cases h
  cases h
  obtain ⟨ht, hne, hexp⟩ := (accessToken_some d now t).mp hat
  rcases Sys.getSessionF_cases cfg fl ck st plan a r now _ rfl with
    ⟨e, c, g, hg⟩ | ⟨hck, hf, d0, hst, hv, ⟨c, g, hg⟩ | ⟨secs, -, hpl, hl, hrr, hu, hg⟩⟩ <;> rw [hg] at he hs ⊢
  · cases he
  · cases hs
    obtain ⟨-, hend, hidle⟩ := (validate_nil_iff d now).mp hv
    exact ⟨hck, hf, d, hst, ⟨hne, hend, hidle, hexp, hacr⟩, ht, rfl, .inl hst⟩
  · cases hs
    obtain ⟨hend, hidle⟩ := applyGrant_live cfg d0 a r secs now hv
    exact ⟨hck, hf, _, rfl, ⟨hne, hend, hidle, hexp, hacr⟩, ht, rfl, .inr ⟨d0, secs, hst, rfl, hpl, hl, hrr, hu⟩⟩

/-- **C01 (soundness).** Whenever the upstream receives an Authorization header written by wonderwall, the request carried
    a decryptable ticket, the store (after this request) holds a session for it that has not ended, has not timed out, has an
    unexpired non-empty access token and satisfies the configured level, and the header is that session's access token;
    the ID-token header, when enabled, is that session's ID token. -/
theorem sound (cfg : Cfg) (ck : CookieSt) (st : StoreSt) (plan : IdpPlan) (a r : String) (ign : Bool) (now : Int) (t : String)
    (h : (proxy cfg ck st plan a r ign now).upAuth = some t) :
    ∃ d, ck = .valid ∧ (proxy cfg ck st plan a r ign now).store = .present d ∧ ValidSession cfg d now ∧ t = d.AccessToken ∧
      (proxy cfg ck st plan a r ign now).upIdToken = (if cfg.includeIdToken then some d.IDToken else none) := by
  rw [← Sys.proxyF_nofault] at h ⊢
  obtain ⟨hck, -, d, hst, hv, ht, hid, -⟩ := soundF cfg {} ck st plan a r ign now t h
  exact ⟨d, hck, hst, hv, ht, hid⟩

/-- with a live session in the store and a provider that does not reject the refresh token, `getSession` succeeds and returns
    either the stored session or the freshly refreshed one -/
theorem getSession_complete (cfg : Cfg) (d : Data) (plan : IdpPlan) (a r : String) (now : Int)
    (hv : d.Validate now = []) (hp : plan ≠ .clientErr) :
    (getSession cfg .valid (.present d) plan a r now).err = none ∧
    ((getSession cfg .valid (.present d) plan a r now).sess = some d ∨
      ∃ secs, plan = .ok secs ∧ (getSession cfg .valid (.present d) plan a r now).sess = some (applyGrant cfg d a r secs now)) := by
  have hve := (Sys.validateErr_eq_none d now).mpr hv
  unfold getSession getOrRefresh refresh getSess
  simp only [hve]
  by_cases hm : (decide (cfg.mode = .ssoProxy) || cfg.autoRefreshDisabled) = true <;> simp only [hm]
  · simp
  · by_cases hsr : shouldRefresh d now <;> by_cases hc : canRefresh d now <;> cases plan <;> simp_all [SessErr.isInvalid]

/-- **C01 (completeness).** A request presenting the cookie of a session that is live, holds an unexpired token and has the required
    level is always forwarded with `Authorization` SET to the current token of that session (any client-supplied value is replaced:
    `Rewrite` uses `Header.Set`), provided the provider does not reject the refresh token and hands out a usable token. -/
theorem complete (cfg : Cfg) (d : Data) (plan : IdpPlan) (a r : String) (ign : Bool) (now : Int)
    (hv : ValidSession cfg d now) (hp : plan ≠ .clientErr) (hok : ∀ secs, plan = .ok secs → 0 ≤ secs ∧ a ≠ "") :
    ∃ d', (proxy cfg .valid (.present d) plan a r ign now).store = .present d' ∧
      (proxy cfg .valid (.present d) plan a r ign now).forwarded = true ∧
      (proxy cfg .valid (.present d) plan a r ign now).upAuth = some d'.AccessToken := by
  obtain ⟨h1, h2, h3, h4, h5⟩ := hv
  obtain ⟨he, hs⟩ := getSession_complete cfg d plan a r now ((validate_nil_iff d now).mpr ⟨h1, h2, h3⟩) hp
  -- whichever session `getSession` returns, its token is active and its level is that of `d`
  obtain ⟨d', hs, hne, hexp, hacr⟩ : ∃ d', (getSession cfg .valid (.present d) plan a r now).sess = some d' ∧ d'.AccessToken ≠ "" ∧
      ¬ now > d'.Metadata.Tokens.ExpireAt ∧ d'.Acr = d.Acr := by
    rcases hs with hs | ⟨secs, hpl, hs⟩
    · exact ⟨d, hs, h1, h4, rfl⟩
    · obtain ⟨hsec, ha⟩ := hok secs hpl
      obtain ⟨-, -, -, hon, hoff⟩ := applyGrant_metadata cfg d a r secs now _ rfl
      refine ⟨_, hs, ha, ?_, rfl⟩
      by_cases hi : cfg.inactivity > 0
      · rw [(hon hi).2]; omega
      · rw [(hoff hi).2]; omega
  have hat := (accessToken_some d' now _).mpr ⟨rfl, hne, hexp⟩
  rw [← Sys.proxyF_nofault, Sys.proxyF_auth cfg {} .valid (.present d) plan a r ign now _ (Sys.getSessionF_nofault ..) he hs hat (hacr ▸ h5)]
  exact ⟨d', (getSession_ok cfg .valid (.present d) plan a r now d' hs he).2.1, rfl, rfl⟩

/-- **C01 (no token without a session).** Corollary of `sound`: without a decryptable ticket, or without a store entry, no
    Authorization / ID-token header is written, whatever else the request carries. -/
theorem none_without_session (cfg : Cfg) (ck : CookieSt) (st : StoreSt) (plan : IdpPlan) (a r : String) (ign : Bool) (now : Int)
    (h : ck ≠ .valid ∨ (proxy cfg ck st plan a r ign now).store = .absent ∨ (proxy cfg ck st plan a r ign now).store = .undecryptable) :
    (proxy cfg ck st plan a r ign now).upAuth = none := by
  cases hu : (proxy cfg ck st plan a r ign now).upAuth with
  | none => rfl
  | some t =>
    obtain ⟨d, h1, h2, _⟩ := sound cfg ck st plan a r ign now t hu
    rcases h with h | h | h
    · exact absurd h1 h
    · rw [h] at h2; cases h2
    · rw [h] at h2; cases h2

/-- the ID-token header is never written without the Authorization header -/
theorem idtoken_only_with_auth (cfg : Cfg) (ck : CookieSt) (st : StoreSt) (plan : IdpPlan) (a r : String) (ign : Bool) (now : Int)
    (h : (proxy cfg ck st plan a r ign now).upAuth = none) : (proxy cfg ck st plan a r ign now).upIdToken = none := by
  rcases Sys.proxyF_cases cfg {} ck st plan a r ign now _ (Sys.getSessionF_nofault ..) _ (Sys.proxyF_nofault ..) with ⟨_, _, _, _, _, _, hp⟩ | hp <;> rw [hp] at h ⊢
  cases h

-- non-vacuity: a concrete live session in the refresh window is forwarded with the NEW token after an automatic refresh
def sampleData : Data := {
  ExternalSessionID := "sid", AccessToken := "at0", IDToken := "id", RefreshToken := "rt0", Acr := "idporten-loa-high",
  Metadata := { Session := { CreatedAt := 1000000000000, EndsAt := 37000000000000, TimeoutAt := 0 }, Tokens := { ExpireAt := 1600000000000, RefreshedAt := 1000000000000 } } }
example : (proxy { acr := "Level4", includeIdToken := true } .valid (.present sampleData) (.ok 600) "at1" "rt1" false 1400000000000).upAuth = some "at1" := by decide
example : (proxy { acr := "Level4" } .valid (.present sampleData) (.clientErr) "at1" "rt1" false 1400000000000).upAuth = none := by decide
example : (proxy {} .valid (.present sampleData) (.serverErr) "at1" "rt1" false 1700000000000).upAuth = none := by decide   -- expired + refresh impossible

end Ww.Proofs.C01
