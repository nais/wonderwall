import Ww.Model.Callback
/-!
# C03 — Only an ID token passing every OpenID Connect check can create a session
-/
namespace Ww.Proofs.C03
open Ww.Model

/-- "acr is at least the level requested": substantial ≤ high with the legacy names mapped, equality for anything else -/
def acrAtLeast (requested actual : String) : Prop :=
  (requested ∈ ["idporten-loa-substantial", "Level3"] ∧ actual ∈ ["idporten-loa-substantial", "idporten-loa-high"]) ∨
  (requested ∈ ["idporten-loa-high", "Level4"] ∧ actual = "idporten-loa-high") ∨
  (requested ∉ ["idporten-loa-substantial", "Level3", "idporten-loa-high", "Level4"] ∧ actual = requested)

theorem acr_order (e a : String) : acrAccepts e a = true ↔ acrAtLeast e a := by
  unfold acrAccepts acrTranslate' acrAtLeast
  by_cases h3 : e = "Level3"
  · simp [h3]
  by_cases h4 : e = "Level4"
  · simp [h4]
  by_cases hs : e = "idporten-loa-substantial"
  · simp [hs]
  by_cases hh : e = "idporten-loa-high"
  · simp [hh]
  simp [h3, h4, hs, hh, eq_comm]

/-- **C03.** A token response is accepted only if it contains an ID token that verifies under a published key with that key's algorithm
    (hence never `none`, never a symmetric algorithm keyed by public material), whose iss is the issuer, whose aud contains the client id and no
    untrusted additional audience, whose exp / iat / nbf hold within the skew, whose nonce is this attempt's nonce, which has sub, has sid when
    required, and whose acr is present (when a level is configured) and at least the level requested. -/
theorem accepted_token_passes_every_check (cfg : OidcCfg) (nonce cookieAcr : String) (now : Int) (t : Option IdToken)
    (h : acceptIdToken cfg nonce cookieAcr now t = true) :
    ∃ tok, t = some tok ∧ tok.sig = .publishedKey ∧ tok.sig ≠ .algNone ∧ tok.sig ≠ .symmetricWithPublic ∧
      tok.iss = some cfg.issuer ∧ cfg.clientId ∈ tok.aud ∧ (tok.aud.length > 1 → ∀ a ∈ tok.aud, a = cfg.clientId ∨ a ∈ cfg.trusted) ∧
      (∃ e, tok.exp = some e ∧ now < e + cfg.skew) ∧ (∃ i, tok.iat = some i ∧ i - cfg.skew ≤ now) ∧ (∀ n, tok.nbf = some n → n - cfg.skew ≤ now) ∧
      tok.nonce = some nonce ∧ tok.sub.isSome = true ∧ (cfg.sidRequired = true → tok.sid.isSome = true) ∧
      (cfg.acrConfigured = true → ∃ a, tok.acr = some a ∧ (cookieAcr ≠ "" → acrAtLeast cookieAcr a)) := by
  cases t with
  | none => cases h
  | some tok =>
    simp only [acceptIdToken, Bool.and_eq_true, and_assoc, Bool.or_eq_true, decide_eq_true_eq, Bool.not_eq_true', List.all_eq_true, List.contains_iff_mem] at h
    obtain ⟨hsig, hacr, hiss, hsub, -, haud, hexp, hiat, hnbf, hnonce, hsid, htr⟩ := h
    refine ⟨tok, rfl, hsig, by rw [hsig]; decide, by rw [hsig]; decide, hiss, haud, ?_, ?_, ?_, ?_, hnonce, hsub, ?_, ?_⟩
    · intro hl a ha
      rcases htr with htr | htr
      · omega
      · simpa using htr a ha
    · cases he : tok.exp <;> simp [he] at hexp
      exact ⟨_, rfl, hexp⟩
    · cases hi : tok.iat <;> simp [hi] at hiat
      exact ⟨_, rfl, hiat⟩
    · intro n hn; simpa [hn] using hnbf
    · intro hs; simpa [hs] using hsid
    · intro hc
      rcases hacr with hacr | ⟨ha1, ha2⟩
      · rw [hc] at hacr; cases hacr
      · cases hac : tok.acr <;> simp [hac] at ha1 ha2
        exact ⟨_, rfl, fun hne => (acr_order cookieAcr _).mp (ha2.resolve_left hne)⟩

/-- no ID token, or an unverifiable one, is never accepted — whatever its claims say -/
theorem unverified_never_accepted (cfg : OidcCfg) (nonce cookieAcr : String) (now : Int) (tok : IdToken) (h : tok.sig ≠ .publishedKey) :
    acceptIdToken cfg nonce cookieAcr now (some tok) = false ∧ acceptIdToken cfg nonce cookieAcr now none = false :=
  ⟨by unfold acceptIdToken; simp [h], rfl⟩

-- non-vacuity: a fully valid token is accepted; the same token one second after exp + skew is not
def good : IdToken := { sig := .publishedKey, iss := some "https://idp", aud := ["client"], exp := some 1000, iat := some 940, nonce := some "n", sub := some "s", sid := some "x", acr := some "idporten-loa-high" }
def cfg0 : OidcCfg := { issuer := "https://idp", clientId := "client", sidRequired := true, acrConfigured := true }
example : acceptIdToken cfg0 "n" "Level3" 1004 (some good) = true ∧ acceptIdToken cfg0 "n" "Level3" 1005 (some good) = false ∧
          acceptIdToken cfg0 "n" "Level4" 950 (some { good with acr := some "idporten-loa-substantial" }) = false ∧
          acceptIdToken cfg0 "n" "" 950 (some { good with aud := ["client", "other"] }) = false ∧
          acceptIdToken { cfg0 with trusted := ["other"] } "n" "" 950 (some { good with aud := ["client", "other"] }) = true := by decide +kernel

end Ww.Proofs.C03
