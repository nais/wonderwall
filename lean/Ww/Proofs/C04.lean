import Ww.Proofs.C04Lemmas
/-!
# C04 — Redirects issued by wonderwall never leave the application's allowed origins

The theorems are about the composition the code performs:
`redirect parameter → url.Parse → (clear scheme/host) → URL.String → validator → (cookie) → validator → http.Redirect → browser`.
-/
namespace Ww.Proofs.C04
open Ww.Model Ww.Model.Url Ww.Model.Redirect Ww.Model.Browser Ww.Proofs.C04L

/-- a relative redirect target as wonderwall hands it to net/http: one leading slash, no control bytes, no backslash before the query -/
def SafeRel (E : Str) : Prop :=
  ∃ t, E = '/' :: t ∧ t.head? ≠ some '/' ∧ E.any isCTL = false ∧ '\\' ∉ (cut '?' E).1

/-- a Location header a browser keeps on the current origin: "/" followed by neither "/" nor "\", no TAB/LF/CR anywhere -/
def SafeLoc (L : Str) : Prop :=
  ∃ t, L = '/' :: t ∧ t.head? ≠ some '/' ∧ t.head? ≠ some '\\' ∧ ∀ c ∈ L, isTabNl c = false

/-! ## the browser -/

/-- **browser**: a Location of that shape resolves inside the origin of the request URL, whatever the base scheme -/
theorem browse_safeLoc (base L : Str) (h : SafeLoc L) : browse base L = .same := by
  obtain ⟨t, rfl, h1, h2, h3⟩ := h
  obtain ⟨t', hclean, suf, rfl⟩ := cleanInput_keep ['/'] t (a := '/') (b := '/') rfl rfl (by decide) (by decide) h3
  have hs : schemeOf ('/' :: t') = none := by simp [schemeOf, isAlpha]
  unfold browse
  simp only [List.singleton_append] at hclean
  simp only [hclean, hs]
  cases t' with
  | nil => rfl
  | cons d r =>
    simp at h1 h2
    simp [relRef, Browser.isSep, h1, h2]

/-! ## net/http's rewriting -/

theorem safeRel_safeLoc (E : Str) (h : SafeRel E) : SafeLoc E := by
  obtain ⟨t, rfl, ht, hctl, hb⟩ := h
  refine ⟨t, rfl, ht, fun hh => ?_, fun c hc => ctl_tabnl c (by simpa using List.any_eq_false.mp hctl c hc)⟩
  cases t with
  | nil => cases hh
  | cons c r =>
    obtain rfl : c = '\\' := Option.some.inj hh
    exact hb (by simp [cut_fst])

theorem hexEsc_safeLoc (L : Str) (h : SafeLoc L) : SafeLoc (hexEscapeNonASCII L) := by
  obtain ⟨t, rfl, h1, h2, h3⟩ := h
  exact ⟨_, hexEsc_cons '/' t (by decide), hexEsc_head_ne t _ (by decide) h1, hexEsc_head_ne t _ (by decide) h2, hexEsc_tabnl _ h3⟩

/-- path.Clean keeps the shape, given that no backslash stands before the query (a cleaned path may begin with any character of that part) -/
theorem rewriteRooted_safe (E : Str) (h : SafeLoc E) (hb : '\\' ∉ (cut '?' E).1) : SafeLoc (rewriteRooted E) := by
  obtain ⟨t, rfl, -, -, htab⟩ := h
  have hspec := cut_spec '?' ('/' :: t)
  have hp : (cut '?' ('/' :: t)).1 = '/' :: (cut '?' t).1 := by simp [cut]
  unfold rewriteRooted cleanRootedStr
  simp only [hp, List.drop_succ_cons, List.drop_zero]
  rw [hp] at hspec hb
  generalize hquery : (if (cut '?' ('/' :: t)).2.2 = true then '?' :: (cut '?' ('/' :: t)).2.1 else []) = query at hspec
  have hq : ∀ x, query.head? = some x → x = '?' := by
    subst hquery; intro x; split <;> simp
    exact fun h => h.symm
  clear hquery
  generalize (cut '?' t).1 = p at hspec hb ⊢
  -- what follows the cleaned path is a slash or nothing, and nothing when the cleaned path is "/" itself
  suffices ∀ S : Str, (∀ c ∈ S, c = '/') → (cleanRooted p = [] → S = []) →
      SafeLoc ('/' :: (joinSlash (cleanRooted p) ++ S ++ query)) by
    split
    · rename_i hc
      simpa using this ['/'] (by simp) fun h0 => by rw [h0] at hc; exact absurd hc.2 (by decide)
    · simpa using this [] (by simp) fun _ => rfl
  intro S hS hS0
  -- the rewritten target begins with a character of a kept segment (taken from `p`, and no slash) or, after "/" alone, with `?`
  have hhead : ∀ x, (joinSlash (cleanRooted p) ++ S ++ query).head? = some x → x ≠ '/' ∧ x ≠ '\\' := by
    intro x hx
    cases hsegs : cleanRooted p with
    | nil =>
      rw [hsegs, hS0 hsegs] at hx
      obtain rfl := hq x (by simpa [joinSlash] using hx)
      exact ⟨by decide, by decide⟩
    | cons s ss =>
      obtain ⟨hne, hsl, hsub⟩ := cleanRooted_seg p s (by rw [hsegs]; exact List.mem_cons_self)
      rw [hsegs, List.append_assoc, List.head?_append, joinSlash_head s ss hne] at hx
      obtain ⟨a, r, rfl⟩ := List.exists_cons_of_ne_nil hne
      obtain rfl : a = x := by simpa using hx
      exact ⟨fun h => hsl (h ▸ List.mem_cons_self), fun h => hb (h ▸ List.mem_cons_of_mem _ (hsub List.mem_cons_self))⟩
  refine ⟨_, rfl, fun h => (hhead _ h).1 rfl, fun h => (hhead _ h).2 rfl, fun c hc => ?_⟩
  have hin : ∀ c ∈ p ++ query, isTabNl c = false := fun c hc => htab c (hspec ▸ List.mem_cons_of_mem _ hc)
  simp only [List.mem_cons, List.mem_append] at hc
  rcases hc with rfl | (hc | hc) | hc
  · decide
  · rcases joinSlash_mem _ c hc with rfl | ⟨s, hs, hcs⟩
    · decide
    · exact hin c (List.mem_append_left _ ((cleanRooted_seg p s hs).2.2 hcs))
  · rw [hS c hc]; decide
  · exact hin c (List.mem_append_right _ hc)

/-- **net/http**: what `http.Redirect` puts into Location for such a target is a SafeLoc, for every request path -/
theorem httpRedirect_safe (reqPath E : Str) (h : SafeRel E) : SafeLoc (httpRedirect reqPath E) := by
  have hloc := safeRel_safeLoc E h
  obtain ⟨t, rfl, -, -, hb⟩ := h
  unfold httpRedirect
  split
  · split
    · simp only [List.head?_cons, ne_eq, not_true_eq_false, if_false]
      exact hexEsc_safeLoc _ (rewriteRooted_safe _ hloc hb)
    · exact hexEsc_safeLoc _ hloc
  · exact hexEsc_safeLoc _ hloc

/-! ## standalone mode: the chain from the redirect parameter to the browser -/

/-- `clean` with the relative validator, applied to the serialisation of a parsed URL whose scheme and host were cleared: a `SafeRel`, given that the fallback is -/
theorem clean_cleared_safe (red fb : URL) (hop : startsWith ['/'] red.opaq = false) (hfb : SafeRel (toStr fb)) :
    SafeRel (clean relValid (toStr { red with scheme := [], host := [] }) fb) := by
  unfold clean
  by_cases hv : relValid (toStr { red with scheme := [], host := [] }) = true
  · rw [if_pos hv]
    obtain ⟨t, hE, ht, hctl⟩ := relValid_shape _ hv
    exact ⟨t, hE, ht, hctl, cleared_no_backslash _ rfl rfl hop t hE ht⟩
  · rw [if_neg hv]; exact hfb

/-- whatever `redirect` parameter is sent, what StandaloneRedirect.Canonical returns is a SafeRel (given that the ingress path fallback is) -/
theorem standaloneCanonical_safe (ip target : Str) (hfb : SafeRel (toStr (matchingPath ip))) : SafeRel (standaloneCanonical ip target) := by
  unfold standaloneCanonical
  apply clean_cleared_safe _ _ _ hfb
  split
  · rename_i u hu; exact parseURL_opaq _ _ hu
  · rfl

/-- re-validation of a value carried in the login / logout cookie keeps the shape -/
theorem standaloneClean_safe (ip X : Str) (hX : SafeRel X) (hfb : SafeRel (toStr (matchingPath ip))) : SafeRel (standaloneClean ip X) := by
  unfold standaloneClean clean
  split
  · exact hX
  · exact hfb

/-- the chain for a value canonicalised under an ingress path `ip'` and re-validated under `ip` (the cookie is shared between path
    prefixes of one host) -/
theorem standalone_redirect_stays_mixed (ip ip' target reqPath base : Str) (hfb : SafeRel (toStr (matchingPath ip)))
    (hfb' : SafeRel (toStr (matchingPath ip'))) :
    browse base (httpRedirect reqPath (standaloneClean ip (standaloneCanonical ip' target))) = .same :=
  browse_safeLoc _ _ (httpRedirect_safe _ _ (standaloneClean_safe ip _ (standaloneCanonical_safe ip' target hfb') hfb))

/-- **C04, standalone, login callback / logout callback.** For EVERY value of the `redirect` parameter, every request path and either base
    scheme: the Location that net/http emits for the re-validated, cookie-carried canonical redirect keeps the browser on the request's origin. -/
theorem standalone_redirect_stays (ip target reqPath base : Str) (hfb : SafeRel (toStr (matchingPath ip))) :
    browse base (httpRedirect reqPath (standaloneClean ip (standaloneCanonical ip target))) = .same :=
  standalone_redirect_stays_mixed ip ip target reqPath base hfb hfb

/-- the fallbacks are safe for the root ingress and for a typical path prefix (non-vacuity of the hypothesis) -/
theorem fallback_root_safe : SafeRel (toStr (matchingPath [])) := by
  have : toStr (matchingPath []) = ['/'] := by decide
  rw [this]
  exact ⟨[], rfl, by decide, by decide, by decide⟩

-- the validator alone is NOT enough: it accepts a raw backslash target, which a browser reads as `//evil.com`; the property holds because
-- only `URL.String()` output (never containing a raw backslash before the query) is ever validated, stored and emitted  (tests, by evaluation)
#guard relValid "/\\evil.com".toList = true ∧ browse "https".toList "/\\evil.com".toList = .abs "https".toList "evil.com".toList []
#guard standaloneCanonical [] "/\\evil.com".toList = "/%5Cevil.com".toList
#guard standaloneCanonical [] "https://evil.com/a/../b?x=y#z".toList = "/".toList
#guard standaloneCanonical [] "https://evil.com/a/b?x=y#z".toList = "/a/b?x=y#z".toList
#guard toStr (matchingPath "/sub".toList) = "/sub".toList

end Ww.Proofs.C04
