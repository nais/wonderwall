import Ww.Model.Sched
/-!
# What one step of the interleaving model can change

`step s p` rewrites the record of process `p` and at most two of the global fields. The lemmas here say so once, field by field, so that
an invariant's proof only has to look at the fields it speaks of.
-/
namespace Ww.Proofs.Sched
open Ww.Model.Sched

/-- **The frame.** Replacing `p`'s record touches nobody else's: a statement about every process holds afterwards if it holds of the new record
    and held of the others before. -/
theorem forall_setProc {L : Pid → Proc → Prop} {s : St} {p : Pid} {x : Proc} (hx : L p x) (hs : ∀ q, q ≠ p → L q (s.procs q)) (q : Pid) :
    L q ((setProc s p x).procs q) := by
  by_cases hq : q = p
  · rw [hq, setProc_same]; exact hx
  · rw [setProc_other s p q x hq]; exact hs q hq

theorem step_procs_other (s : St) {p q : Pid} (h : q ≠ p) : (step s p).1.procs q = s.procs q := by
  cases hpc : (s.procs p).pc <;> simp only [step, hpc] <;> (repeat' split) <;> simp [h]

/-- only the provider call presents a token or moves the provider on -/
theorem step_idp_ne {s : St} {p : Pid} (h : (s.procs p).pc ≠ .idp) : (step s p).1.presented = s.presented ∧ (step s p).1.idpCur = s.idpCur := by
  unfold step
  simp only []
  split <;> (repeat' split) <;> first | exact ⟨rfl, rfl⟩ | exact absurd ‹_› h

/-- … and a call that presents the provider's current token is granted -/
theorem step_idp_grant {s : St} {p : Pid} (hpc : (s.procs p).pc = .idp) (hrt : (s.procs p).rt = s.idpCur) :
    (step s p).1.presented = s.presented ++ [s.idpCur] ∧ (step s p).1.idpCur = s.idpCur + 1 := by
  simp [step, hpc, hrt]

/-- what the old cookie can read after a step: the same as before, or nothing (a logout's delete, a new login's write), or the write-back of a
    refresher onto an entry that was there -/
theorem step_mine (s : St) (p : Pid) :
    mine (step s p).1.sess = mine s.sess ∨ mine (step s p).1.sess = none ∨
      ∃ v, (s.procs p).pc = .update ∧ s.sess = some v ∧ (step s p).1.sess = some { v with gen := (s.procs p).newGen, fresh := true, owner := 0 } := by
  cases hpc : (s.procs p).pc <;> simp only [step, hpc] <;> (repeat' split) <;> simp [*, mine]

/-- a process reaches the provider call only from a re-read that found a readable entry not yet refreshed, and carries that entry's token -/
theorem step_reaches_idp {s : St} {p : Pid} (h : ((step s p).1.procs p).pc = .idp) :
    ∃ v, mine s.sess = some v ∧ v.fresh = false ∧ ((step s p).1.procs p).rt = v.gen := by
  revert h
  cases hpc : (s.procs p).pc <;> simp only [step, hpc] <;> (repeat' split) <;> simp [*]
  -- left: the steps from `start` and `get`, whose next program counter is a function of the kind; it lies outside the critical section, `idp` inside
  · exact fun e => by simpa [e, inCrit] using startNext_outside (s.procs p).kind
  · exact fun e => by simpa [e, inCrit] using getNext_outside (s.procs p).kind (mine s.sess)

/-- the generations `p` has seen or served it had before, or read off the readable entry, or was just granted -/
theorem step_gens {s : St} {p : Pid} {g : Nat} (h : ((step s p).1.procs p).seen = some g ∨ ((step s p).1.procs p).served = some g) :
    ((s.procs p).seen = some g ∨ (s.procs p).served = some g) ∨ (∃ v, mine s.sess = some v ∧ v.gen = g) ∨
      (s.procs p).pc = .update ∧ (s.procs p).newGen = g := by
  suffices (((step s p).1.procs p).seen = some g → _) ∧ (((step s p).1.procs p).served = some g → _) from h.elim this.1 this.2
  cases hpc : (s.procs p).pc <;> simp only [step, hpc] <;> (repeat' split) <;> simp_all
  exact fun e => .inr (servedAtGet_some e)

end Ww.Proofs.Sched
