import Ww.Proofs.C01
/-!
# C11 — Store and identity-provider faults fail closed

That a proxied request is given a token only for a session read and validated in that request, whatever faults occur, is
`Ww.Proofs.C01.soundF`.
-/
namespace Ww.Proofs.C11
open Ww.Gen Ww.Model Ww.Proofs.C01

/-- without faults the faulty handlers are the ordinary ones -/
theorem no_faults_same (cfg : Cfg) (ck : CookieSt) (st : StoreSt) (plan : IdpPlan) (a r : String) (ign : Bool) (now : Int) :
    proxyF cfg {} ck st plan a r ign now = proxy cfg ck st plan a r ign now :=
  Sys.proxyF_nofault cfg ck st plan a r ign now

/-- **never a stale token.** An expired access token is never forwarded when the refresh does not succeed — whichever fault prevents it -/
theorem expired_token_never_forwarded (cfg : Cfg) (fl : Faults) (d : Data) (plan : IdpPlan) (a r : String) (ign : Bool) (now : Int)
    (hexp : now > d.Metadata.Tokens.ExpireAt)
    (hfail : fl.lock = true ∨ fl.reread = true ∨ fl.update = true ∨ fl.read = true ∨ plan = .clientErr ∨ plan = .serverErr ∨ plan = .broken) :
    (proxyF cfg fl .valid (.present d) plan a r ign now).upAuth = none := by
  cases hu : (proxyF cfg fl .valid (.present d) plan a r ign now).upAuth with
  | none => rfl
  | some t =>
    obtain ⟨-, hread, d', -, hv, -, -, hor⟩ := soundF cfg fl .valid (.present d) plan a r ign now t hu
    rcases hor with h1 | ⟨d0, secs, -, -, hpl, hfl, hfr, hfu⟩
    · cases h1; exact absurd hexp hv.2.2.2.1
    · rcases hfail with h | h | h | h | h | h | h <;> simp [h] at hfl hfr hfu hread hpl

/-- a provider rejection (4xx) of the refresh token makes the session unauthenticated: proxied requests go on without a token, forward-auth and manual refresh answer 401 -/
theorem provider_rejection_unauthenticates (cfg : Cfg) (d : Data) (a r : String) (ign : Bool) (now : Int)
    (hm : cfg.mode ≠ .ssoProxy) (ha : cfg.autoRefreshDisabled = false) (hv : d.Validate now = [])
    (hsr : shouldRefresh d now = true) (hc : canRefresh d now = true) :
    (proxyF cfg {} .valid (.present d) .clientErr a r ign now).upAuth = none ∧
    (sessionRefreshF cfg {} .valid (.present d) .clientErr a r now).status = 401 ∧
    (cfg.forwardAuth = true → (forwardAuthF cfg {} .valid (.present d) .clientErr a r now).status = 401) := by
  have hve := (Sys.validateErr_eq_none d now).mpr hv
  refine ⟨?_, ?_, ?_⟩
  · unfold proxyF getSessionF getOrRefreshF refreshF getSessF getSess proxyUnauth
    simp [hm, ha, hve, hsr, hc, SessErr.isInvalid]
    split <;> rfl
  · unfold sessionRefreshF refreshF getSessF getSess
    simp [hve, hc, SessErr.isInvalid]
  · intro hf
    unfold forwardAuthF getSessionF getOrRefreshF refreshF getSessF getSess
    simp [hf, hm, ha, hve, hsr, hc, SessErr.isInvalid, statusOfErr]

theorem validateErr_ne_other (d : Data) (now : Int) : validateErr d now ≠ some .other := by
  unfold validateErr
  split
  · simp
  · split <;> simp

/-- a logout through the cookie, the entry being present: an error when the lookup or the delete fails for good; else the entry goes -/
theorem logoutF_present (k : LogoutKind) (hk : k ≠ .frontchannel) (fl : Faults) (d : Data) (now : Int) :
    logoutF k fl .valid (.present d) now =
      if fl.read || fl.del then (500, .present d) else (if k = .local_ then 204 else 302, .absent) := by
  -- a lookup that is not cut short by the fault answers `validateErr d now` together with the session, and that is never `.other`
  have hve := validateErr_ne_other d now
  unfold logoutF getSessF getSess
  cases k <;> cases fl.read <;> cases fl.del <;> simp at hk ⊢ <;> split <;> simp_all

/-- **logout reports faults.** A logout whose session could not be looked up or deleted because of a store fault does not answer success -/
theorem logout_fault_is_reported (k : LogoutKind) (fl : Faults) (st : StoreSt) (now : Int) (d : Data) (hst : st = .present d)
    (hf : fl.read = true ∨ fl.del = true) (hk : k = .frontchannel → fl.del = true) :
    (logoutF k fl .valid st now).1 ≠ 204 ∧ (logoutF k fl .valid st now).1 ≠ 302 ∧ (logoutF k fl .valid st now).1 ≠ 200 ∧ (logoutF k fl .valid st now).2 = st := by
  subst hst
  by_cases hkf : k = .frontchannel
  · simp [logoutF, hkf, hk hkf]
  · rw [logoutF_present k hkf, if_pos (by simpa using hf)]; simp

/-- and without faults a logout removes the entry and answers success -/
theorem logout_success (k : LogoutKind) (st : StoreSt) (now : Int) (d : Data) (hst : st = .present d) :
    (logoutF k {} .valid st now).2 = .absent := by
  subst hst
  by_cases hkf : k = .frontchannel
  · simp [logoutF, hkf]
  · rw [logoutF_present k hkf]; rfl

end Ww.Proofs.C11
