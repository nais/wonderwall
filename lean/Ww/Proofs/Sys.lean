import Ww.Model.Faults
/-!
# What the session handlers can answer, layer by layer

For `getSessF`, `refreshF`, `getSessionF` and `proxyF` (`Ww.Model.Faults`): every possible answer, for every input and every
fault, as an explicit record. The handlers of `Ww.Model.Sys` are the instance without faults (`fl = {}`).

An outcome lemma speaks of `res` with `h : handler … = res`: give `_ rfl` to learn about the handler itself, or `_ (…_nofault ..)` to
learn about the handler of `Ww.Model.Sys`; each case then carries an equation to rewrite with.
-/
namespace Ww.Proofs.Sys
open Ww.Gen Ww.Model

variable (cfg : Cfg) (fl : Faults) (d : Data) (ck : CookieSt) (st : StoreSt) (plan : IdpPlan) (a r : String) (ign : Bool) (now : Int)

theorem validateErr_eq_none : validateErr d now = none ↔ d.Validate now = [] := by
  unfold validateErr
  split
  · simp [*]
  · rename_i h; split <;> simpa using h

theorem getSessF_false : getSessF false ck st now = getSess ck st now := by
  cases ck <;> rfl

/-- a lookup answers without error only for a decryptable ticket whose entry is read, is present and passes Validate -/
theorem getSessF_cases (f : Bool) (ck : CookieSt) (st : StoreSt) (now : Int) :
    (∃ e s, getSessF f ck st now = ⟨some e, s⟩) ∨
    (∃ d, ck = .valid ∧ f = false ∧ st = .present d ∧ d.Validate now = [] ∧ getSessF f ck st now = ⟨none, some d⟩) := by
  cases ck <;> try exact .inl ⟨_, _, rfl⟩
  cases f <;> try exact .inl ⟨_, _, rfl⟩
  cases st with
  | present d =>
    cases hv : validateErr d now with
    | some e => exact .inl ⟨e, some d, by simp [getSessF, getSess, hv]⟩
    | none => exact .inr ⟨d, rfl, rfl, rfl, (validateErr_eq_none d now).mp hv, by simp [getSessF, getSess, hv]⟩
  | _ => exact .inl ⟨_, _, rfl⟩

/-- **the outcome of `refreshF`**, called with `d` on the store `st`: a session is handed back and nothing happened; or it fails and
    the store is untouched; or a grant for the validated, refreshable record of the store is stored. The provider is contacted only
    on behalf of such a record. -/
theorem refreshF_cases (res : RefreshRes) (h : refreshF cfg fl d st plan a r now = res) :
    (∃ d', (d' = d ∨ st = .present d' ∧ d'.Validate now = []) ∧ res = ⟨none, some d', st, false, false⟩) ∨
    (∃ e c g, (c = true → ∃ d2, st = .present d2 ∧ d2.Validate now = [] ∧ canRefresh d2 now = true) ∧ res = ⟨some e, none, st, c, g⟩) ∨
    (∃ d2 secs, st = .present d2 ∧ d2.Validate now = [] ∧ canRefresh d2 now = true ∧ plan = .ok secs ∧
      fl.lock = false ∧ fl.reread = false ∧ fl.update = false ∧
      res = ⟨none, some (applyGrant cfg d2 a r secs now), .present (applyGrant cfg d2 a r secs now), true, true⟩) := by
  unfold refreshF at h
  by_cases hc : canRefresh d now = true
  case neg => exact .inl ⟨d, .inl rfl, by simpa [hc] using h.symm⟩
  cases hl : fl.lock
  case true => exact .inr (.inl ⟨.other, false, false, by simp, by simpa [hc, hl] using h.symm⟩)
  rcases getSessF_cases fl.reread .valid st now with ⟨e, s, hg⟩ | ⟨d2, -, hrr, hst, hv, hg⟩
  · exact .inr (.inl ⟨e, false, false, by simp, by simpa [hc, hl, hg] using h.symm⟩)
  by_cases hc2 : canRefresh d2 now = true
  case neg => exact .inl ⟨d2, .inr ⟨hst, hv⟩, by simpa [hc, hl, hg, hc2] using h.symm⟩
  have hcon : ∃ d2, st = .present d2 ∧ d2.Validate now = [] ∧ canRefresh d2 now = true := ⟨d2, hst, hv, hc2⟩
  simp only [hc, hl, hg, hc2, Bool.not_true, Bool.false_eq_true, if_false] at h
  cases plan with
  | ok secs =>
    cases hu : fl.update
    case true => exact .inr (.inl ⟨_, true, true, fun _ => hcon, by simpa [hu] using h.symm⟩)
    exact .inr (.inr ⟨d2, secs, hst, hv, hc2, rfl, rfl, hrr, rfl, by simpa [hu] using h.symm⟩)
  | _ => exact .inr (.inl ⟨_, true, false, fun _ => hcon, h.symm⟩)

theorem refreshF_nofault : refreshF cfg {} d st plan a r now = refresh cfg d st plan a r now := rfl

theorem getSessionF_nofault : getSessionF cfg {} ck st plan a r now = getSession cfg ck st plan a r now := by
  unfold getSessionF getOrRefreshF
  simp only [getSessF_false, refreshF_nofault]
  rfl

theorem proxyF_nofault : proxyF cfg {} ck st plan a r ign now = proxy cfg ck st plan a r ign now := by
  unfold proxyF
  simp only [getSessionF_nofault]
  rfl

/-- **the outcome of `getSessionF`**: an error, and the store is untouched; or the session that this request read from the store and
    validated, and the store is untouched (a refresh was not due, not possible, or failed for a reason that lets the request fall back
    to the existing tokens); or a grant for that session, stored, with no fault on the way. -/
theorem getSessionF_cases (res : RefreshRes) (h : getSessionF cfg fl ck st plan a r now = res) :
    (∃ e c g, res = ⟨some e, none, st, c, g⟩) ∨
    (ck = .valid ∧ fl.read = false ∧ ∃ d, st = .present d ∧ d.Validate now = [] ∧
      ((∃ c g, res = ⟨none, some d, st, c, g⟩) ∨
       (∃ secs, canRefresh d now = true ∧ plan = .ok secs ∧ fl.lock = false ∧ fl.reread = false ∧ fl.update = false ∧
         res = ⟨none, some (applyGrant cfg d a r secs now), .present (applyGrant cfg d a r secs now), true, true⟩))) := by
  unfold getSessionF getOrRefreshF at h
  rcases getSessF_cases fl.read ck st now with ⟨e, s, hg⟩ | ⟨d, hck, hf, hst, hv, hg⟩
  · exact .inl ⟨e, false, false, by simpa [hg] using h.symm⟩
  subst hst
  simp only [hg] at h
  split at h
  · exact .inr ⟨hck, hf, d, rfl, hv, .inl ⟨false, false, h.symm⟩⟩
  by_cases hsr : shouldRefresh d now = true
  case neg => exact .inr ⟨hck, hf, d, rfl, hv, .inl ⟨false, false, by simpa [hsr] using h.symm⟩⟩
  simp only [hsr, Bool.not_true, Bool.false_eq_true, if_false] at h
  rcases refreshF_cases cfg fl d (.present d) plan a r now _ rfl with
    ⟨d', hd', hr⟩ | ⟨e, c, g, -, hr⟩ | ⟨d2, secs, hst2, -, hc, hp, hl, hrr, hu, hr⟩ <;> rw [hr] at h
  · have : d' = d := hd'.elim id fun h => (StoreSt.present.inj h.1).symm
    exact .inr ⟨hck, hf, d, rfl, hv, .inl ⟨false, false, by rw [← h, this]⟩⟩
  · by_cases hi : (decide (e = .invalidExternal) || e.isInvalid) = true
    · exact .inl ⟨e, c, g, by simpa [hi] using h.symm⟩
    · exact .inr ⟨hck, hf, d, rfl, hv, .inl ⟨c, g, by simpa [hi] using h.symm⟩⟩
  · cases hst2
    exact .inr ⟨hck, hf, d, rfl, hv, .inr ⟨secs, hc, hp, hl, hrr, hu, h.symm⟩⟩

theorem proxyUnauth_eq (g : RefreshRes) :
    proxyUnauth cfg ign g = ⟨false, !(cfg.autoLogin && !ign), none, none, g.store, g.contacted, g.granted⟩ := by
  unfold proxyUnauth
  split <;> simp [*]

/-- **the outcome of `proxyF`**, `g` being what `getSessionF` answered: the request is authenticated, with the unexpired access token of
    a session that `g` returned without error and that has the configured level; or it is not, and no header is written. Store and
    provider are touched by `getSessionF` alone. -/
theorem proxyF_cases (g : RefreshRes) (hg : getSessionF cfg fl ck st plan a r now = g) (res : ProxyObs)
    (h : proxyF cfg fl ck st plan a r ign now = res) :
    (∃ d t, g.err = none ∧ g.sess = some d ∧ accessToken d now = some t ∧ (cfg.acr = "" ∨ acrValid cfg.acr d.Acr = true) ∧
      res = ⟨true, true, some t, if cfg.includeIdToken then some d.IDToken else none, g.store, g.contacted, g.granted⟩) ∨
    res = ⟨false, !(cfg.autoLogin && !ign), none, none, g.store, g.contacted, g.granted⟩ := by
  unfold proxyF at h
  simp only [hg, proxyUnauth_eq] at h
  split at h
  · rename_i d he hs
    split at h
    · rename_i t ht
      split at h
      · rename_i hacr
        exact .inl ⟨d, t, he, hs, ht, by simpa using hacr, h.symm⟩
      · exact .inr h.symm
    · exact .inr h.symm
  · exact .inr h.symm

theorem proxyF_auth (g : RefreshRes) (hg : getSessionF cfg fl ck st plan a r now = g) {d : Data} {t : String}
    (he : g.err = none) (hs : g.sess = some d) (hat : accessToken d now = some t) (hacr : cfg.acr = "" ∨ acrValid cfg.acr d.Acr = true) :
    proxyF cfg fl ck st plan a r ign now =
      ⟨true, true, some t, if cfg.includeIdToken then some d.IDToken else none, g.store, g.contacted, g.granted⟩ := by
  unfold proxyF
  simp only [hg, he, hs, hat]
  exact if_pos (by simpa using hacr)

end Ww.Proofs.Sys
