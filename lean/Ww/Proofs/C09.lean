import Ww.Model.Crypto
import Ww.Proofs.C01
/-!
# C09 — Cookies and stored sessions are opaque, tamper-evident and key-separated  (PARTIAL: relative to H-AEAD / H-RND; see DESIGN §6)
-/
namespace Ww.Proofs.C09
open Ww.Model

theorem roundtrip (k : KeyId) (n : Nat) (p : Plain) : dec k (enc k n p) = some p := by simp [dec, enc]

/-- a ciphertext opens only under the key it was made with -/
theorem key_separation (k k' : KeyId) (n : Nat) (p : Plain) (h : k' ≠ k) : dec k' (enc k n p) = none := by
  simp [dec, enc]; exact fun e => absurd e.symm h

/-- anything that is not a ciphertext (modified, truncated, extended, random) opens under no key -/
theorem tampered_rejected (k : KeyId) (j : Nat) : dec k (.junk j) = none := rfl

/-- **opaque**: neither the session cookie nor the store value lets an observer without keys read a token, verifier or key -/
theorem outputs_opaque (dk dek : KeyId) (n m : Nat) (sk a r i : String) :
    visible (sessionCookie dk n sk dek) = [] ∧ visible (storeValue dek m a r i) = [] := ⟨rfl, rfl⟩

/-- **key separation of sessions**: a store value can be read only with the data key it was written under — the one inside that user's own cookie -/
theorem store_needs_own_data_key (dek dek' : KeyId) (m : Nat) (a r i : String) (h : dek' ≠ dek) :
    readStore dek' (some (storeValue dek m a r i)) = some none ∧ readStore dek (some (storeValue dek m a r i)) = some (some (a, r, i)) := by
  simp [readStore, storeValue, roundtrip, key_separation _ _ _ _ h]

/-- a cookie can be read only with the deployment key -/
theorem cookie_needs_deployment_key (dk dk' : KeyId) (n : Nat) (sk : String) (dek : KeyId) (h : dk' ≠ dk) :
    (cookieState dk' (some (sessionCookie dk n sk dek))).1 = .undecryptable ∧ (cookieState dk (some (sessionCookie dk n sk dek))).1 = .valid := by
  simp [cookieState, sessionCookie, roundtrip, key_separation _ _ _ _ h]

/-- another cookie type's ciphertext under the session-cookie name is no ticket -/
theorem other_cookie_type_is_no_ticket (dk : KeyId) (n : Nat) (p : Plain) (h : ∀ sk dek, p ≠ .ticket sk dek) :
    (cookieState dk (some (enc dk n p))).1 = .undecryptable := by
  cases p <;> simp_all [cookieState, roundtrip]

/-- **fail closed**: whenever the cookie or the store value does not open, no token reaches the upstream and the session endpoints answer 401 — never 5xx -/
theorem unreadable_is_unauthenticated (cfg : Cfg) (ck : CookieSt) (st : StoreSt) (plan : IdpPlan) (a r : String) (ign : Bool) (now : Int)
    (h : ck = .undecryptable ∨ st = .undecryptable) :
    (proxy cfg ck st plan a r ign now).upAuth = none ∧ ((sessionInfo ck st now).status = 401) ∧ ((sessionRefresh cfg ck st plan a r now).status = 401) := by
  refine ⟨?_, ?_, ?_⟩
  · cases hu : (proxy cfg ck st plan a r ign now).upAuth with
    | none => rfl
    | some t =>
      -- the session forwarded is the entry this request read, or a grant for it: never an undecryptable entry
      rw [← Sys.proxyF_nofault] at hu
      obtain ⟨hck, -, _, -, -, -, -, hst⟩ := C01.soundF cfg {} ck st plan a r ign now t hu
      rcases h with h | h
      · rw [h] at hck; cases hck
      · rcases hst with hst | ⟨_, _, hst, -⟩ <;> rw [h] at hst <;> cases hst
  · rcases h with h | h <;> subst h
    · simp [sessionInfo, getSess, statusOfErr]
    · cases ck <;> simp [sessionInfo, getSess, statusOfErr]
  · rcases h with h | h <;> subst h
    · simp [sessionRefresh, getSess, statusOfErr]
    · cases ck <;> simp [sessionRefresh, getSess, statusOfErr]

/-- framing round trip and the minimum-length rejection -/
theorem frame_roundtrip (nonce sealed : List Nat) : unframe nonce.length (frame nonce sealed) = some (nonce, sealed) := by
  unfold unframe frame
  simp

theorem short_rejected (n : Nat) (c : List Nat) (h : c.length < n) : unframe n c = none := by
  unfold unframe; simp [h]

/-- **fresh nonces**: with an injective nonce source, the ciphertexts of any two encryptions differ — also of the same plaintext under the same key -/
theorem nonces_fresh (rnd : Nat → Nat) (hinj : ∀ a b, rnd a = rnd b → a = b) (k : KeyId) (p q : Plain) (i j : Nat) (hij : i ≠ j) :
    enc k (rnd i) p ≠ enc k (rnd j) q := by
  intro h
  simp [enc] at h
  exact hij (hinj i j h.1)

end Ww.Proofs.C09
