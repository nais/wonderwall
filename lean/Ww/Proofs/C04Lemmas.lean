import Ww.Model.Redirect
import Ww.Model.Browser
/-!
# Helper lemmas for C04 (strings, net/url model, path.Clean, net/http's escaper, the browser's input clean-up)
-/
namespace Ww.Proofs.C04L
open Ww.Model Ww.Model.Url Ww.Model.Redirect

/-- takes one `if` off an equation; on the long `if` chains of the model `split at h` is very slow to check -/
theorem ite_cases {α} {c : Prop} [Decidable c] {a b x : α} (h : (if c then a else b) = x) : c ∧ a = x ∨ ¬c ∧ b = x := by
  by_cases hc : c
  · exact Or.inl ⟨hc, by rwa [if_pos hc] at h⟩
  · exact Or.inr ⟨hc, by rwa [if_neg hc] at h⟩

/-! ## character classes

Every class of the model is a Boolean combination of comparisons with character literals. `simp` with the definitions of the classes
involved, `char_le` and `← Char.toNat_inj` turns a statement about classes into linear arithmetic over `c.toNat`, which `omega` decides. -/

theorem char_le (c d : Char) : c ≤ d ↔ c.toNat ≤ d.toNat := Iff.rfl

theorem ctl_tabnl (c : Char) (h : isCTL c = false) : Browser.isTabNl c = false := by
  simp [isCTL, Browser.isTabNl, ← Char.toNat_inj] at h ⊢
  omega

/-! ## strings.Cut -/

theorem cut_spec (c : Char) (s : Str) :
    s = (cut c s).1 ++ (if (cut c s).2.2 then c :: (cut c s).2.1 else []) := by
  induction s with
  | nil => simp [cut]
  | cons d rest ih =>
    by_cases h : d = c
    · simp [cut, h]
    · simp only [cut, h, if_false, List.cons_append]
      rw [← ih]

/-- what comes before the cut is the longest prefix without `c`: the `List.takeWhile` lemmas apply to it -/
theorem cut_fst (c : Char) (s : Str) : (cut c s).1 = s.takeWhile (· != c) := by
  induction s with
  | nil => rfl
  | cons d rest ih => by_cases h : d = c <;> simp [cut, h, ih]

theorem cut_not_mem (c : Char) (s : Str) : c ∉ (cut c s).1 := by
  intro h
  rw [cut_fst] at h
  simpa using List.all_eq_true.mp List.all_takeWhile c h

theorem cut_not_found (c : Char) (s : Str) (h : (cut c s).2.2 = false) : (cut c s).1 = s := by
  have := cut_spec c s
  simp [h] at this
  exact this.symm

theorem takeWhile_append_stop (p : Char → Bool) (a b : Str) (c : Char) (hc : p c = false) : (a ++ c :: b).takeWhile p <+: a := by
  rw [List.takeWhile_append]
  split
  · simp [hc]
  · exact List.takeWhile_prefix p

/-- the query is cut off at the first `?`, also on the path that keeps a lone trailing `?` as ForceQuery -/
theorem splitQuery_fst (r : Str) : (splitQuery r).1 = (cut '?' r).1 := by
  unfold splitQuery
  split
  · rename_i h
    obtain ⟨x, hx⟩ := List.isSuffixOf_iff_suffix.mp h.1
    subst hx
    have hx : '?' ∉ x := by
      have := h.2
      simp only [List.count_append, List.count_singleton_self] at this
      exact List.count_eq_zero.mp (by omega)
    rw [cut_fst, List.takeWhile_append_of_pos (by intro a ha; simpa using fun h0 : a = '?' => hx (h0 ▸ ha))]
    simp
  · rfl

/-! ## getScheme -/

def schemeChar (c : Char) : Bool := isAlnum c || c = '+' || c = '-' || c = '.'

/-- `mid` is what the scan consumes up to the colon; without a scheme the whole input is handed back -/
theorem getSchemeGo_spec (acc s sch rest : Str) (h : getSchemeGo acc s = some (sch, rest)) :
    (sch = [] ∧ rest = acc.reverse ++ s) ∨
    ∃ mid, sch = acc.reverse ++ mid ∧ s = mid ++ ':' :: rest ∧ (∀ c ∈ mid, schemeChar c = true) ∧
      (acc = [] → ∃ a, mid.head? = some a ∧ isAlpha a = true) := by
  induction s generalizing acc with
  | nil => simp [getSchemeGo] at h; exact Or.inl ⟨h.1, by simp [h.2]⟩
  | cons c cs ih =>
    -- when `c` is consumed, the answer for `c :: acc` is the answer for `acc`
    have step (hc : schemeChar c = true) (hfirst : acc = [] → isAlpha c = true) (h : getSchemeGo (c :: acc) cs = some (sch, rest)) :
        (sch = [] ∧ rest = acc.reverse ++ c :: cs) ∨
        ∃ mid, sch = acc.reverse ++ mid ∧ c :: cs = mid ++ ':' :: rest ∧ (∀ c ∈ mid, schemeChar c = true) ∧
          (acc = [] → ∃ a, mid.head? = some a ∧ isAlpha a = true) := by
      rcases ih _ h with ⟨h1, h2⟩ | ⟨mid, h1, h2, h3, -⟩
      · exact Or.inl ⟨h1, by simp [h2]⟩
      · exact Or.inr ⟨c :: mid, by simp [h1], by simp [h2], by simpa [hc] using h3, fun h0 => ⟨c, rfl, hfirst h0⟩⟩
    rw [getSchemeGo] at h
    rcases ite_cases h with ⟨hal, h⟩ | ⟨-, h⟩
    · exact step (by simp [schemeChar, isAlnum, hal]) (fun _ => hal) h
    rcases ite_cases h with ⟨hdig, h⟩ | ⟨-, h⟩
    · rcases ite_cases h with ⟨hacc, h⟩ | ⟨hacc, h⟩
      · cases h; exact Or.inl ⟨rfl, by simp [hacc]⟩
      · refine step ?_ (fun h0 => absurd h0 hacc) h
        simp only [schemeChar, isAlnum, Bool.or_assoc] at hdig ⊢
        simp [hdig]
    rcases ite_cases h with ⟨hcol, h⟩ | ⟨-, h⟩
    · rcases ite_cases h with ⟨-, h⟩ | ⟨hacc, h⟩
      · cases h
      · cases h; exact Or.inr ⟨[], by simp, by rw [hcol]; rfl, by simp, fun h0 => absurd h0 hacc⟩
    · cases h; exact Or.inl ⟨rfl, rfl⟩

theorem getScheme_spec (raw sch rest : Str) (h : getScheme raw = some (sch, rest)) :
    (sch = [] ∧ rest = raw) ∨
    (raw = sch ++ ':' :: rest ∧ (∀ c ∈ sch, schemeChar c = true) ∧ ∃ a r, sch = a :: r ∧ isAlpha a = true) := by
  rcases getSchemeGo_spec [] raw sch rest h with h0 | ⟨mid, h1, h2, h3, h4⟩
  · exact Or.inl (by simpa using h0)
  · obtain ⟨a, ha, haa⟩ := h4 rfl
    simp at h1; subst h1
    cases sch with
    | nil => cases ha
    | cons b r => simp at ha; subst ha; exact Or.inr ⟨h2, h3, b, r, rfl, haa⟩

/-! ## escaping alphabets -/

theorem upperhex_ne_backslash : ∀ n, n < 16 → upperhex n ≠ '\\' := by decide

theorem upperhex_not_tabnl (n : Nat) (h : n < 16) : upperhex n ≠ '\t' ∧ upperhex n ≠ '\n' ∧ upperhex n ≠ '\r' ∧ upperhex n ≠ '/' ∧ upperhex n ≠ '?' := by
  have : ∀ n, n < 16 → (upperhex n ≠ '\t' ∧ upperhex n ≠ '\n' ∧ upperhex n ≠ '\r' ∧ upperhex n ≠ '/' ∧ upperhex n ≠ '?') := by decide
  exact this n h

theorem shouldEscape_backslash (m : Mode) : shouldEscape '\\' m = true := by
  cases m <;> decide

theorem escape_no_backslash (m : Mode) (s : Str) : '\\' ∉ escape m s := by
  intro h
  obtain ⟨c, -, hc⟩ := List.mem_flatMap.mp h
  unfold escChar at hc
  split at hc
  · split at hc
    · simp at hc
    · simp only [List.mem_cons, List.not_mem_nil, or_false] at hc
      rcases hc with hc | hc | hc
      · cases hc
      · exact upperhex_ne_backslash _ (Nat.mod_lt _ (by decide)) hc.symm
      · exact upperhex_ne_backslash _ (Nat.mod_lt _ (by decide)) hc.symm
  · rename_i hs
    rw [← List.mem_singleton.mp hc, shouldEscape_backslash] at hs
    exact hs rfl

theorem validEncoded_no_backslash (m : Mode) (s : Str) (h : validEncoded m s = true) : '\\' ∉ s := by
  intro hm
  have := List.all_eq_true.mp h _ hm
  simp [validExtra, shouldEscape_backslash] at this

theorem escapedPath_no_backslash (u : URL) : '\\' ∉ escapedPath u := by
  unfold escapedPath
  split
  · rename_i h; exact validEncoded_no_backslash _ _ h.2.1
  · split
    · simp
    · exact escape_no_backslash _ _

theorem fragmentString_no_backslash (u : URL) : '\\' ∉ fragmentString u := by
  unfold fragmentString escapedFragment
  split
  · refine List.not_mem_cons_of_ne_of_not_mem (by decide) ?_
    split
    · rename_i h; exact validEncoded_no_backslash _ _ h.2.1
    · exact escape_no_backslash _ _
  · simp

/-! ## parse -/

theorem setPath_fields (u u' : URL) (p : Str) (h : setPath u p = some u') :
    u'.opaq = u.opaq ∧ u'.scheme = u.scheme ∧ u'.host = u.host ∧ u'.user = u.user ∧ u'.omitHost = u.omitHost ∧ u'.rawQuery = u.rawQuery ∧
    u'.forceQuery = u.forceQuery ∧ u'.fragment = u.fragment ∧ u'.rawFragment = u.rawFragment ∧
    unescape .path p = some u'.path ∧ u'.rawPath = (if escape .path u'.path = p then [] else p) := by
  unfold setPath at h
  split at h
  · cases h
  · rename_i path hp
    injection h with h
    subst h
    simp [hp]

theorem setFragment_fields (u u' : URL) (f : Str) (h : setFragment u f = some u') :
    u'.opaq = u.opaq ∧ u'.scheme = u.scheme ∧ u'.host = u.host ∧ u'.user = u.user ∧ u'.omitHost = u.omitHost ∧ u'.rawQuery = u.rawQuery ∧
    u'.forceQuery = u.forceQuery ∧ u'.path = u.path ∧ u'.rawPath = u.rawPath := by
  unfold setFragment at h
  split at h
  · cases h
  · injection h with h
    subst h
    simp

theorem toLower_eq_nil (s : Str) : toLower s = [] ↔ s = [] := by
  unfold toLower; simp

/-- The ways out of `parse`: the asterisk form, or a scheme split off by `getScheme` and a query split off by `splitQuery`, followed by
    one of url.go's four forms, each with the tests that lead to it: opaque (`scheme:rest`, no slash), authority (`//`), rooted path
    under a scheme, plain path. -/
theorem parse_cases (raw : Str) (v : Bool) (u : URL) (h : parse raw v = some u) :
    (raw = ['*'] ∧ u = { path := ['*'] }) ∨
    ∃ sch rest0 rest query force, raw.any isCTL = false ∧ getScheme raw = some (sch, rest0) ∧ splitQuery rest0 = (rest, query, force) ∧
      ∃ u0 : URL, u0 = { scheme := toLower sch, rawQuery := query, forceQuery := force } ∧
        ((startsWith ['/'] rest = false ∧ sch ≠ [] ∧ u = { u0 with opaq := rest }) ∨
         (startsWith ['/', '/'] rest = true ∧ (sch ≠ [] ∨ v = false ∧ startsWith ['/', '/', '/'] rest = false) ∧ ∃ user host,
            parseAuthority (cut '/' (rest.drop 2)).1 = some (user, host) ∧
            setPath { u0 with user := user, host := host }
              (if (cut '/' (rest.drop 2)).2.2 then '/' :: (cut '/' (rest.drop 2)).2.1 else []) = some u) ∨
         (startsWith ['/'] rest = true ∧ startsWith ['/', '/'] rest = false ∧ sch ≠ [] ∧ setPath { u0 with omitHost := true } rest = some u) ∨
         (sch = [] ∧ (startsWith ['/'] rest = false → v = false ∧ (cut '/' rest).1.contains ':' = false) ∧
            (v = false → startsWith ['/', '/', '/'] rest = false → startsWith ['/', '/'] rest = false) ∧ setPath u0 rest = some u)) := by
  rw [parse, Option.ite_none_left_eq_some, Option.ite_none_left_eq_some] at h
  obtain ⟨hctl, -, h⟩ := h
  rcases ite_cases h with ⟨hstar, h⟩ | ⟨-, h⟩
  · exact Or.inl ⟨hstar, (Option.some.inj h).symm⟩
  split at h
  · cases h
  rename_i sch rest0 hg
  dsimp only at h
  refine Or.inr ⟨sch, rest0, (splitQuery rest0).1, (splitQuery rest0).2.1, (splitQuery rest0).2.2, by simpa using hctl, hg, rfl, _, rfl, ?_⟩
  rcases ite_cases h with ⟨hc, h⟩ | ⟨hopq, h⟩
  · exact Or.inl ⟨by simpa using hc.1, by simpa [toLower_eq_nil] using hc.2, (Option.some.inj h).symm⟩
  rw [Option.ite_none_left_eq_some, Option.ite_none_left_eq_some] at h
  obtain ⟨hreq, hcolon, h⟩ := h
  rcases ite_cases h with ⟨hc, h⟩ | ⟨hna, h⟩
  · split at h
    · cases h
    rename_i user host hpa
    exact Or.inr (Or.inl ⟨hc.2, by simpa [toLower_eq_nil] using hc.1, user, host, hpa, h⟩)
  rcases ite_cases h with ⟨hc, h⟩ | ⟨hno, h⟩
  · exact Or.inr (Or.inr (Or.inl ⟨hc.2, by simpa [hc.1] using hna, by simpa [toLower_eq_nil] using hc.1, h⟩))
  · -- with a scheme, the opaque or the rooted form would have been taken
    have hs : toLower sch = [] := Decidable.byContradiction fun hs => by
      cases hsw : startsWith ['/'] (splitQuery rest0).1
      · exact hopq ⟨by simp [hsw], hs⟩
      · exact hno ⟨hs, hsw⟩
    exact Or.inr (Or.inr (Or.inr ⟨(toLower_eq_nil sch).mp hs, fun hsw => ⟨by simpa [hsw] using hreq, by simpa [hsw] using hcolon⟩,
      by simpa [hs] using hna, h⟩))

/-- an Opaque part never starts with a slash -/
theorem parse_opaq (raw : Str) (v : Bool) (u : URL) (h : parse raw v = some u) : startsWith ['/'] u.opaq = false := by
  rcases parse_cases raw v u h with ⟨-, rfl⟩ | ⟨sch, rest0, rest, query, force, -, -, -, u0, rfl, hb⟩
  · rfl
  rcases hb with ⟨hsl, -, rfl⟩ | ⟨-, -, _, _, -, hp⟩ | ⟨-, -, -, hp⟩ | ⟨-, -, -, hp⟩
  · exact hsl
  all_goals rw [(setPath_fields _ _ _ hp).1]; rfl

theorem parseURL_opaq (raw : Str) (u : URL) (h : parseURL raw = some u) : startsWith ['/'] u.opaq = false := by
  unfold parseURL at h
  dsimp only at h
  split at h
  · cases h
  · rename_i u0 h0
    split at h
    · injection h with h; subst h; exact parse_opaq _ _ _ h0
    · have := (setFragment_fields _ _ _ h).1; rw [this]; exact parse_opaq _ _ _ h0

/-- ParseRequestURI yielding a URL without scheme: either "*" or an origin-form target whose path part starts with a slash -/
theorem parse_req_rel (raw : Str) (u : URL) (h : parse raw true = some u) (hs : u.scheme = []) :
    (raw = ['*'] ∧ u = { path := ['*'] }) ∨
    (raw.any isCTL = false ∧ startsWith ['/'] (splitQuery raw).1 = true ∧
      setPath { rawQuery := (splitQuery raw).2.1, forceQuery := (splitQuery raw).2.2 } (splitQuery raw).1 = some u) := by
  rcases parse_cases raw true u h with hstar | ⟨sch, rest0, rest, query, force, hctl, hg, hq, u0, rfl, hb⟩
  · exact Or.inl hstar
  rcases hb with ⟨-, hne, rfl⟩ | ⟨-, hne, _, _, -, hp⟩ | ⟨-, -, hne, hp⟩ | ⟨rfl, hsl, -, hp⟩
  · exact absurd ((toLower_eq_nil _).mp hs) hne
  · rw [(setPath_fields _ _ _ hp).2.1] at hs
    exact absurd ((toLower_eq_nil _).mp hs) (by simpa using hne)
  · rw [(setPath_fields _ _ _ hp).2.1] at hs
    exact absurd ((toLower_eq_nil _).mp hs) hne
  · rcases getScheme_spec _ _ _ hg with ⟨-, rfl⟩ | ⟨-, -, _, _, h0, -⟩
    · rw [hq]
      exact Or.inr ⟨hctl, by simpa using hsl, hp⟩
    · cases h0

/-- ParseRequestURI yielding a URL with scheme and host: the authority form -/
theorem parse_req_abs (raw : Str) (u : URL) (h : parse raw true = some u) (hs : u.scheme ≠ []) (hh : u.host ≠ []) :
    ∃ sch rest0, getScheme raw = some (sch, rest0) ∧ sch ≠ [] ∧ u.scheme = toLower sch ∧ raw.any isCTL = false ∧
      startsWith ['/', '/'] (splitQuery rest0).1 = true ∧
      parseAuthority (cut '/' ((splitQuery rest0).1.drop 2)).1 = some (u.user, u.host) := by
  rcases parse_cases raw true u h with ⟨-, rfl⟩ | ⟨sch, rest0, rest, query, force, hctl, hg, hq, u0, rfl, hb⟩
  · exact absurd rfl hs
  rcases hb with ⟨-, -, rfl⟩ | ⟨hsl, hne, user, host, hpa, hp⟩ | ⟨-, -, -, hp⟩ | ⟨-, -, -, hp⟩
  · exact absurd rfl hh
  · have hf := setPath_fields _ _ _ hp
    refine ⟨sch, rest0, hg, by simpa using hne, hf.2.1, hctl, ?_⟩
    rw [hq, hf.2.2.1, hf.2.2.2.1]
    exact ⟨hsl, hpa⟩
  · exact absurd (setPath_fields _ _ _ hp).2.2.1 hh
  · exact absurd (setPath_fields _ _ _ hp).2.2.1 hh

/-! ## URL.String of a URL without scheme, authority and opaque part -/

theorem toStr_rel (u : URL) (hs : u.scheme = []) (hh : u.host = []) (hu : u.user = none) (ho : u.opaq = []) :
    toStr u = (if (cut '/' (escapedPath u)).1.contains ':' then ['.', '/'] else []) ++ escapedPath u ++ queryString u ++ fragmentString u := by
  unfold toStr hierString authorityString
  simp [hs, hh, hu, ho]

/-- EscapedPath right after setPath: the raw path as it came in, or the decoded path escaped again (`*` excepted) -/
theorem setPath_escapedPath (u0 u : URL) (p : Str) (h : setPath u0 p = some u) :
    escapedPath u = p ∨ u.path = ['*'] ∨ escapedPath u = escape .path u.path := by
  obtain ⟨-, -, -, -, -, -, -, -, -, -, hraw⟩ := setPath_fields _ _ _ h   -- the last field, `rawPath`
  unfold escapedPath
  split
  · rename_i hc
    split at hraw
    · exact absurd hraw hc.1
    · exact Or.inl hraw
  · split
    · exact Or.inr (Or.inl ‹_›)
    · exact Or.inr (Or.inr rfl)

theorem unescape_some (m : Mode) (s p : Str) (h : unescape m s = some p) : unescapeOk m s = true ∧ p = unescapeRaw m s := by
  unfold unescape at h
  split at h
  · exact ⟨‹_›, (Option.some.inj h).symm⟩
  · cases h

theorem unescapeRaw_plain (m : Mode) (c : Char) (s : Str) (h1 : c ≠ '%') (h2 : c ≠ '+') : unescapeRaw m (c :: s) = c :: unescapeRaw m s := by
  conv => lhs; unfold unescapeRaw
  simp only [h1, h2, if_false]

theorem escape_plain (m : Mode) (c : Char) (s : Str) (h : shouldEscape c m = false) : escape m (c :: s) = c :: escape m s := by
  simp [escape, escChar, h]

/-- what the relative validator accepts starts with exactly one slash and holds no control character -/
theorem relValid_shape (E : Str) (h : relValid E = true) :
    ∃ t, E = '/' :: t ∧ t.head? ≠ some '/' ∧ E.any isCTL = false := by
  unfold relValid parseRequestURI at h
  simp only [Bool.and_eq_true] at h
  obtain ⟨_, h⟩ := h
  split at h
  · cases h
  rename_i u hp
  simp only [Bool.and_eq_true, isRelativeURL, decide_eq_true_eq] at h
  obtain ⟨⟨hs, hh⟩, hv⟩ := h
  rcases parse_req_rel E u hp hs with ⟨_, rfl⟩ | ⟨hctl, hsl, hset⟩
  · exact absurd hv (by decide)
  obtain ⟨ho, -, -, hu, -, -, -, -, -, hpath, -⟩ := setPath_fields _ _ _ hset
  rw [splitQuery_fst, cut_fst] at hsl hset hpath
  obtain ⟨t, rfl⟩ := (List.isPrefixOf_iff_prefix.mp hsl).trans (List.takeWhile_prefix _)
  refine ⟨t, rfl, fun hhead => ?_, hctl⟩
  -- E starts with two slashes: then so does the re-serialised URL, which the validator rejects
  obtain ⟨t', rfl⟩ := List.head?_eq_some_iff.mp hhead
  rw [List.singleton_append] at hset hpath
  rw [List.takeWhile_cons_of_pos (by decide), List.takeWhile_cons_of_pos (by decide)] at hset hpath
  have hpath : u.path = '/' :: '/' :: unescapeRaw .path (t'.takeWhile (· != '?')) := by
    rw [(unescape_some _ _ _ hpath).2, unescapeRaw_plain _ _ _ (by decide) (by decide),
      unescapeRaw_plain _ _ _ (by decide) (by decide)]
  obtain ⟨z, hz⟩ : ∃ z, escapedPath u = '/' :: '/' :: z := by
    rcases setPath_escapedPath _ _ _ hset with h1 | h1 | h1
    · exact ⟨_, h1⟩
    · rw [h1] at hpath; cases hpath
    · rw [h1, hpath, escape_plain _ _ _ (by decide), escape_plain _ _ _ (by decide)]
      exact ⟨_, rfl⟩
  rw [toStr_rel u hs hh (by rw [hu]) (by rw [ho]), hz] at hv
  simp [cut, isValidAbsolutePath, startsWith] at hv

/-- the serialised form of a parsed URL whose scheme and host were cleared: if it starts with exactly one slash, nothing before its
    first `?` is a backslash (the path and the fragment are re-escaped by URL.String) -/
theorem cleared_no_backslash (v : URL) (hs : v.scheme = []) (hh : v.host = []) (ho : startsWith ['/'] v.opaq = false) (t : Str)
    (hE : toStr v = '/' :: t) (ht : t.head? ≠ some '/') : '\\' ∉ (cut '?' (toStr v)).1 := by
  -- an opaque part would come first, and does not start with a slash; credentials would be announced by two slashes
  have hop : v.opaq = [] := by
    cases hopq : v.opaq with
    | nil => rfl
    | cons c r =>
      simp [toStr, hopq, hs] at hE
      simp [hopq, startsWith, hE.1] at ho
  have hu : v.user = none := by
    cases huser : v.user with
    | none => rfl
    | some ui =>
      simp [toStr, hierString, authorityString, hop, huser, hs, hh] at hE
      simp [← hE] at ht
  rw [toStr_rel v hs hh hu hop] at hE ⊢
  split at hE
  · cases hE
  rename_i hdot
  rw [if_neg hdot, List.nil_append, cut_fst, queryString]
  intro hm
  split at hm
  · -- the scan for `?` ends where the query begins, if not before
    rw [List.append_assoc, List.cons_append] at hm
    exact escapedPath_no_backslash v ((takeWhile_append_stop _ _ _ _ (by decide)).subset hm)
  · rw [List.append_nil] at hm
    rcases List.mem_append.mp (List.takeWhile_subset _ hm) with h1 | h1
    · exact escapedPath_no_backslash v h1
    · exact fragmentString_no_backslash v h1

/-! ## path segments -/

theorem splitSlash_mem (l : Str) : ∀ s ∈ splitSlash l, '/' ∉ s ∧ s ⊆ l := by
  induction l with
  | nil => simp [splitSlash]
  | cons d cs ih =>
    unfold splitSlash
    split
    · simp
    · rename_i s0 ss heq
      rw [heq, List.forall_mem_cons] at ih
      have hss : ∀ s ∈ ss, '/' ∉ s ∧ s ⊆ d :: cs := fun s hs => ⟨(ih.2 s hs).1, List.subset_cons_of_subset _ (ih.2 s hs).2⟩
      split
      · simp only [List.forall_mem_cons]
        exact ⟨by simp, ⟨ih.1.1, List.subset_cons_of_subset _ ih.1.2⟩, hss⟩
      · rename_i hd
        simp only [List.forall_mem_cons]
        exact ⟨⟨by simp [ih.1.1, Ne.symm hd], List.cons_subset_cons _ ih.1.2⟩, hss⟩

theorem joinSlash_mem (segs : List Seg) (c : Char) (h : c ∈ joinSlash segs) : c = '/' ∨ ∃ s ∈ segs, c ∈ s := by
  fun_induction joinSlash segs with
  | case1 => cases h
  | case2 s => exact Or.inr ⟨s, List.mem_cons_self, h⟩
  | case3 s ss _ ih =>
    rcases List.mem_append.mp h with h1 | h1
    · exact Or.inr ⟨s, List.mem_cons_self, h1⟩
    · rcases List.mem_cons.mp h1 with h2 | h2
      · exact Or.inl h2
      · exact (ih h2).imp_right fun ⟨s', hs', hc'⟩ => ⟨s', List.mem_cons_of_mem _ hs', hc'⟩

theorem joinSlash_head (s : Seg) (ss : List Seg) (hs : s ≠ []) : (joinSlash (s :: ss)).head? = s.head? := by
  obtain ⟨a, r, rfl⟩ := List.exists_cons_of_ne_nil hs
  cases ss <;> simp [joinSlash]

theorem cleanRooted_seg (q : Str) (s : Seg) (hs : s ∈ cleanRooted q) : s ≠ [] ∧ '/' ∉ s ∧ s ⊆ q := by
  refine ⟨?_, ?_⟩
  · rintro rfl
    simpa [isDotSeg] using cleanRooted_nodot q _ hs
  · rcases cleanSegs_mem [] _ s hs with h | h
    · cases h
    · exact splitSlash_mem q s h

/-! ## net/http's escaping of non-ASCII bytes -/
open Ww.Model.Browser (isTabNl)

theorem hexEsc_append (a b : Str) : hexEscapeNonASCII (a ++ b) = hexEscapeNonASCII a ++ hexEscapeNonASCII b := by
  unfold hexEscapeNonASCII; simp [List.flatMap_append]

theorem hexEsc_cons (c : Char) (t : Str) (h : c.toNat < 128) : hexEscapeNonASCII (c :: t) = c :: hexEscapeNonASCII t := by
  simp [hexEscapeNonASCII, List.flatMap_cons, Nat.not_le.mpr h]

theorem hexEsc_ascii (a : Str) (h : ∀ c ∈ a, c.toNat < 128) : hexEscapeNonASCII a = a := by
  induction a with
  | nil => rfl
  | cons c r ih => rw [hexEsc_cons c r (h c List.mem_cons_self), ih fun d hd => h d (List.mem_cons_of_mem _ hd)]

theorem lowerhex_not_tabnl : ∀ n, n < 16 → isTabNl (lowerhex n) = false := by decide

theorem hexEsc_tabnl (s : Str) (h : ∀ c ∈ s, isTabNl c = false) : ∀ c ∈ hexEscapeNonASCII s, isTabNl c = false := by
  intro x hx
  obtain ⟨c, hc, hxc⟩ := List.mem_flatMap.mp hx
  split at hxc
  · simp only [List.mem_cons, List.not_mem_nil, or_false] at hxc
    rcases hxc with rfl | rfl | rfl
    · decide
    · exact lowerhex_not_tabnl _ (Nat.mod_lt _ (by decide))
    · exact lowerhex_not_tabnl _ (Nat.mod_lt _ (by decide))
  · rw [List.mem_singleton.mp hxc]; exact h c hc

/-- the first character stays or becomes a `%` -/
theorem hexEsc_head_ne (t : Str) (d : Char) (hd : d ≠ '%') (h : t.head? ≠ some d) : (hexEscapeNonASCII t).head? ≠ some d := by
  cases t with
  | nil => simp [hexEscapeNonASCII]
  | cons c r =>
    unfold hexEscapeNonASCII
    rw [List.flatMap_cons]
    split
    · simpa using hd.symm
    · simpa using h

/-! ## the browser's input clean-up -/
open Ww.Model.Browser

theorem dropWhile_of_head {p : Char → Bool} {l : Str} {a : Char} (h : l.head? = some a) (hp : p a = false) : l.dropWhile p = l := by
  obtain ⟨t, rfl⟩ := List.head?_eq_some_iff.mp h
  exact List.dropWhile_cons_of_neg (by simp [hp])

/-- the clean-up of `X ++ tail` keeps `X` when `X` begins and ends with a non-blank and nothing in the string is TAB/LF/CR:
    only blanks at the end of `tail` go -/
theorem cleanInput_keep (X tail : Str) {a b : Char} (ha : X.head? = some a) (hb : X.getLast? = some b)
    (ha0 : isC0Space a = false) (hb0 : isC0Space b = false) (hnt : ∀ c ∈ X ++ tail, isTabNl c = false) :
    ∃ tail', cleanInput (X ++ tail) = X ++ tail' ∧ tail' <+: tail := by
  have hstart : (X ++ tail).dropWhile isC0Space = X ++ tail := dropWhile_of_head (by simp [List.head?_append, ha]) ha0
  have hend : (tail.reverse ++ X.reverse).dropWhile isC0Space = tail.reverse.dropWhile isC0Space ++ X.reverse := by
    rw [List.dropWhile_append, dropWhile_of_head (l := X.reverse) (by rw [List.head?_reverse]; exact hb) hb0]
    split
    · rename_i he; rw [List.isEmpty_iff.mp he, List.nil_append]
    · rfl
  have hpre : (tail.reverse.dropWhile isC0Space).reverse <+: tail := by
    simpa using List.reverse_prefix.mpr (List.dropWhile_suffix isC0Space (l := tail.reverse))
  refine ⟨_, ?_, hpre⟩
  unfold cleanInput
  rw [hstart, List.reverse_append, hend, List.reverse_append, List.reverse_reverse]
  exact List.filter_eq_self.mpr fun c hc => by
    simp [hnt c (List.mem_append.mpr ((List.mem_append.mp hc).imp_right fun h => hpre.subset h))]

end Ww.Proofs.C04L
