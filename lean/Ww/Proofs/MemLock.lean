import Ww.Model.MemLock
/-!
# The in-memory lock excludes, and a dead holder blocks for at most one lease (C07 / C10 on the in-memory store)
-/
namespace Ww.Proofs.MemLock
open Ww.Model.MemLock

theorem holds_iff {s : St} {p now : Nat} : holds s p now = true ↔ ∃ h, s = some h ∧ h.holder = p ∧ now < h.expires := by
  cases s <;> simp [holds]

/-- **exclusion**: while `p` holds the lock, nobody else obtains it and the entry stays `p`'s -/
theorem refused_while_held (s : St) (p q now lease : Nat) (hp : holds s p now = true) (hq : q ≠ p) :
    acquire s q now lease = (s, false) := by
  obtain ⟨h, rfl, rfl, hlt⟩ := holds_iff.mp hp
  simp [acquire, Ne.symm hq, hlt]

/-- a successful acquisition makes the caller the holder for exactly one lease -/
theorem acquired_holds (s : St) (me now lease : Nat) (h : (acquire s me now lease).2 = true) :
    (acquire s me now lease).1 = some ⟨me, now + lease⟩ := by
  unfold acquire at *
  cases s with
  | none => rfl
  | some e => by_cases c : e.holder ≠ me ∧ now < e.expires <;> simp [c] at h ⊢

/-- **at most one holder**: whatever the history, two different processes never hold the lock at the same instant -/
theorem at_most_one_holder (s : St) (p q now : Nat) (hp : holds s p now = true) (hq : holds s q now = true) : p = q := by
  obtain ⟨h, rfl, rfl, -⟩ := holds_iff.mp hp
  obtain ⟨_, hs, rfl, -⟩ := holds_iff.mp hq
  cases hs; rfl

/-- **a dead holder blocks for at most one lease** (C10): once the holder's lease has run out, the next acquisition succeeds, whoever asks -/
theorem obtained_after_expiry (h : Entry) (q now lease : Nat) (hexp : h.expires ≤ now) :
    acquire (some h) q now lease = (some ⟨q, now + lease⟩, true) := by
  have : ¬ now < h.expires := by omega
  simp [acquire, this]

/-- a free lock is obtained at once -/
theorem obtained_when_free (q now lease : Nat) : acquire none q now lease = (some ⟨q, now + lease⟩, true) := rfl

/-- **only the holder releases**: a release by someone else (e.g. a request whose lease ran out and whose lock was taken over) leaves the new holder's entry alone -/
theorem release_only_own (s : St) (p q now : Nat) (hp : holds s p now = true) (hq : q ≠ p) : release s q = s := by
  obtain ⟨h, rfl, rfl, -⟩ := holds_iff.mp hp
  simp [release, Ne.symm hq]

theorem release_own (s : St) (p now : Nat) (hp : holds s p now = true) : release s p = none := by
  obtain ⟨h, rfl, rfl, -⟩ := holds_iff.mp hp
  simp [release]

/-- **exclusion over whole histories**: run any sequence of operations; if `p` holds the lock at `now` afterwards, an acquisition by anybody else at `now` fails -
    stated on the fold so that it covers every reachable state -/
theorem exclusion_reachable (ops : List Op) (p q now lease : Nat) (hq : q ≠ p)
    (hp : holds (ops.foldl (fun s o => (step s o).1) none) p now = true) :
    (acquire (ops.foldl (fun s o => (step s o).1) none) q now lease).2 = false := by
  rw [refused_while_held _ p q now lease hp hq]

/-- non-vacuity: p takes the lock at 100 for 10; q is refused at 105, succeeds at 110; p's late release at 111 does not remove q's entry -/
example :
    let s1 := (acquire none 1 100 10).1
    (acquire s1 2 105 10).2 = false ∧ (acquire s1 2 110 10) = (some ⟨2, 120⟩, true) ∧ release (acquire s1 2 110 10).1 1 = some ⟨2, 120⟩ ∧ holds s1 1 105 = true := by decide

end Ww.Proofs.MemLock
