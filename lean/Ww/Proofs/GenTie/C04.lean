import Ww.Model.HandlerSrc
/-!
# The redirect cleaners and validators of the source (tie G for C04)

pkg/url/redirect.go and pkg/url/validator.go, regenerated statement by statement on every run. The string-level theorems of `Ww.Proofs.C04*` are about the hand model of
these functions; what follows pins down, against the CURRENT source, the composition that model assumes: which validator each mode uses, that `Clean` is
"valid ⇒ the target itself, otherwise the operator's fallback" with nothing in between, and what `Canonical` lets through from the request.
-/
namespace Ww.Proofs.GenTie.C04
open Ww.Model.HandlerSrc Ww.Gen.Handlers Ww.Gen.Manager

/-- **clean** is: the validator accepts ⇒ the target unchanged; otherwise the fallback — for all three modes, each with its own validator and fallback, and nothing else -/
theorem clean_is_validate_or_fallback :
    cleanRedirect = [.ifBegin "v.IsValidRedirect(r, target)", .ret [.expr "target"], .ifEnd, .ret [.expr "fallback(r, target, fallbackTarget).String()"]] ∧
    fallbackRedirect = [.call [] "logInvalidRedirect" ["r", "target", "fallback.String()"] [], .ret [.expr "fallback"]] ∧
    standaloneClean = [.ret [.expr "clean(r, h.Validator, target, h.getFallbackRedirect(r))"]] ∧ standaloneFallback = [.ret [.expr "MatchingPath(r)"]] ∧
    ssoServerClean = [.ret [.expr "clean(r, h.Validator, target, h.fallbackRedirect)"]] ∧
    ssoProxyClean = [.ret [.expr "clean(r, h.Validator, target, h.getFallbackRedirect())"]] ∧ ssoProxyFallback = [.assign "u" "*h.fallbackRedirect", .ret [.expr "&u"]] := ⟨rfl, rfl, rfl, rfl, rfl, rfl, rfl⟩

/-- **which validator each mode is built with**: standalone — relative only; SSO server — absolute, allowed domain = the configured SSO domain, fallback = the configured default URL;
    SSO proxy — absolute, allowed hosts = its own ingresses, fallback = its ingress -/
theorem validators_per_mode :
    newStandaloneRedirect = [.ret [.expr "&StandaloneRedirect{ Validator: NewRelativeValidator(), }"]] ∧
    newSSOServerRedirect = [.call ["u", "err"] "url.ParseRequestURI" ["config.SSO.ServerDefaultRedirectURL"] [], .ifBegin "err != nil", .ret [.nil, .wrap ["err"]], .ifEnd,
      .ret [.expr "&SSOServerRedirect{ fallbackRedirect: u, Validator: NewAbsoluteValidator([]string{config.SSO.Domain}), }", .nil]] ∧
    newSSOProxyRedirect = [.ret [.expr "&SSOProxyRedirect{ fallbackRedirect: ingresses.Single().NewURL(), Validator: NewAbsoluteValidator(ingresses.Hosts()), }"]] := ⟨rfl, rfl, rfl⟩

/-- **Canonical** (every path): standalone parses the `redirect` parameter, REMOVES scheme and host, and cleans the result; the SSO server parses and cleans (absolute targets stay
    subject to the domain validator); the SSO proxy starts from ITS OWN matching ingress (or its fallback) and copies only path, query and fragment from the parameter -/
theorem canonical_paths :
    (paths standaloneCanonical).all (fun p =>
      p.evs.head? = some (.call ["target"] "redirectQueryParam" ["r"] []) && p.evs.contains (.call ["redirect", "err"] "url.Parse" ["target"] []) &&
      p.evs.contains (.assign "redirect.Scheme" "\"\"") && p.evs.contains (.assign "redirect.Host" "\"\"") &&
      p.evs.getLast? = some (.ret [.expr "h.Clean(r, redirect.String())"]) &&
      (p.took "err != nil" false || p.evs.contains (.call ["redirect"] "fallback" ["r", "target", "h.getFallbackRedirect(r)"] []))) = true ∧
    (paths ssoServerCanonical).all (fun p =>
      p.evs.head? = some (.call ["target"] "redirectQueryParam" ["r"] []) && p.evs.getLast? = some (.ret [.expr "h.Clean(r, redirect.String())"]) &&
      (p.took "err != nil" false || p.evs.contains (.call ["redirect"] "fallback" ["r", "target", "h.fallbackRedirect"] []))) = true ∧
    (paths ssoProxyCanonical).all (fun p =>
      p.evs.head? = some (.call ["redirect", "err"] "MatchingIngress" ["r"] []) && p.evs.getLast? = some (.ret [.expr "h.Clean(r, redirect.String())"]) &&
      ((p.evs.filterMap fun st => match st with | .assign l r => some (l, r) | _ => none).all fun a =>
        [("redirect.Path", "redirectParamURL.Path"), ("redirect.RawQuery", "redirectParamURL.RawQuery"), ("redirect.Fragment", "redirectParamURL.Fragment")].contains a)) = true ∧
    redirectQueryParam = [.ret [.expr "r.URL.Query().Get(RedirectQueryParameter)"]] := ⟨by decide +kernel, by decide +kernel, by decide +kernel, rfl⟩

/-- **validators** (every path): `true` is returned on exactly one path each — relative: parsable, no scheme and no host, and a valid absolute path (leading `/`, not `//`, not matching the
    slash/backslash regex); absolute: parsable, NOT relative, http(s), host allowed -/
theorem validator_paths :
    ((paths relativeIsValid).filter fun p => p.evs.getLast? = some (.ret [.expr "true"])).map (·.conds) = [[("!ok", false), ("isRelativeURL(u) && isValidAbsolutePath(u.String())", true)]] ∧
    ((paths absoluteIsValid).filter fun p => p.evs.getLast? = some (.ret [.expr "true"])).map (·.conds) =
      [[("!ok", false), ("!isRelativeURL(u) && isValidScheme(u) && isAllowedHost(u, v.allowedDomains)", true)]] ∧
    (paths relativeIsValid ++ paths absoluteIsValid).all (fun p => p.evs.head? = some (.call ["u", "ok"] "parsableRequestURI" ["r", "redirect"] [])) = true ∧
    isRelativeURL = [.ret [.expr "u.Scheme == \"\" && u.Host == \"\""]] ∧ isValidScheme = [.ret [.expr "u.Scheme == \"http\" || u.Scheme == \"https\""]] ∧
    isValidAbsolutePath = [.ret [.expr "strings.HasPrefix(redirect, \"/\") && !strings.HasPrefix(redirect, \"//\") && !invalidRedirectRegex.MatchString(redirect)"]] ∧
    parsableRequestURI = [.ifBegin "redirect == \"\"", .ret [.nil, .expr "false"], .ifEnd, .call ["u", "err"] "url.ParseRequestURI" ["redirect"] [], .ifBegin "err != nil",
      .ret [.nil, .expr "false"], .ifEnd, .ret [.expr "u", .expr "true"]] := ⟨rfl, rfl, by decide +kernel, rfl, rfl, rfl, rfl⟩

/-- **allowed host**: non-empty host, and for some allowed domain: equal to it (with or without port) or ending in "." + domain (one leading dot normalised) -/
theorem allowed_host_shape :
    isAllowedHost = [.assign "host" "u.Host", .call ["hostname"] "u.Hostname" [] [], .ifBegin "host == \"\" || hostname == \"\" || len(allowedDomains) == 0", .ret [.expr "false"], .ifEnd,
      .loopBegin "_, allowed := range allowedDomains", .ifBegin "isAllowedDomain(u, allowed)", .ret [.expr "true"], .ifEnd, .loopEnd, .ret [.expr "false"]] ∧
    isAllowedDomain = [.ifBegin "len(allowed) == 0", .ret [.expr "false"], .ifEnd, .assign "host" "u.Host", .call ["hostname"] "u.Hostname" [] [],
      .ifBegin "host == allowed || hostname == allowed", .ret [.expr "true"], .ifEnd, .ifBegin "!strings.HasPrefix(allowed, \".\")", .assign "allowed" "\".\" + allowed", .ifEnd,
      .ret [.expr "strings.HasSuffix(host, allowed)"]] := ⟨rfl, rfl⟩

end Ww.Proofs.GenTie.C04
