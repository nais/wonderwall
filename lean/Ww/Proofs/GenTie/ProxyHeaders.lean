import Ww.Model.HandlerSrc
/-!
# What the reverse proxy writes into the upstream request (tie G for C01)

The `Rewrite` function literal of `NewReverseProxy`, the proxy's error handler and the context helpers that carry the tokens from `ReverseProxy.Handler` to `Rewrite`,
regenerated statement by statement from pkg/handler/reverseproxy.go and pkg/middleware/context.go on every run. Together with `GenTie.Handlers.proxy_handler_paths`
(the token enters the context only for a valid session, and it is `sess.AccessToken()`): the header wonderwall writes is exactly "Bearer " + that token.
-/
namespace Ww.Proofs.GenTie.ProxyHeaders
open Ww.Model.HandlerSrc Ww.Gen.Handlers Ww.Gen.Manager

/-- **the headers `Rewrite` writes**: `authorization` is SET (replacing whatever the client sent) to "Bearer " + the token found in the inbound request's context, iff
    there is one; `X-Wonderwall-Id-Token` is SET to the ID token found there, iff there is one; nothing else is set or added; both tokens are read from the INBOUND
    request's context; the forwarding headers are copied from the inbound request and the target is the configured upstream -/
theorem rewrite_paths : (paths proxyRewrite).all (fun p =>
    match p.conds with
    | [("preserveInboundHostHeader", _), ("ok", a), ("ok", i)] =>
      p.calls "r.Out.Header.Set" = (if a then [["\"authorization\"", "\"Bearer \" + accessToken"]] else []) ++ (if i then [["\"X-Wonderwall-Id-Token\"", "idToken"]] else []) &&
      p.evs.contains (.call ["accessToken", "ok"] "mw.AccessTokenFrom" ["r.In.Context()"] []) &&
      p.evs.contains (.call ["idToken", "ok"] "mw.IdTokenFrom" ["r.In.Context()"] []) &&
      p.before "mw.AccessTokenFrom" "mw.IdTokenFrom" &&
      p.calls "r.SetURL" = [["upstream"]] &&
      !p.called "r.Out.Header.Add" && !p.called "r.Out.Header.Del" &&
      (p.evs.filterMap fun st => match st with | .assign l r => some (l, r) | _ => none).all (fun (l, r) =>
        (l, r) = ("r.Out.Host", "r.In.Host") || (l, r) = ("r.Out.Header[\"Forwarded\"]", "r.In.Header[\"Forwarded\"]") ||
        (l, r) = ("r.Out.Header[\"X-Forwarded-For\"]", "r.In.Header[\"X-Forwarded-For\"]") ||
        (l, r) = ("r.Out.Header[\"X-Forwarded-Host\"]", "r.In.Header[\"X-Forwarded-Host\"]") ||
        (l, r) = ("r.Out.Header[\"X-Forwarded-Proto\"]", "r.In.Header[\"X-Forwarded-Proto\"]"))
    | _ => false) = true ∧ (paths proxyRewrite).length = 8 := by decide +kernel

/-- the tokens travel under their own context keys: what `WithAccessToken` stores is what `AccessTokenFrom` reads, likewise for the ID token, and the keys differ -/
theorem context_keys :
    mwWithAccessToken = [.ret [.expr "context.WithValue(ctx, ctxAccessToken, accessToken)"]] ∧
    mwAccessTokenFrom = [.other "accessToken, ok := ctx.Value(ctxAccessToken).(string)", .ret [.expr "accessToken", .expr "ok"]] ∧
    mwWithIdToken = [.ret [.expr "context.WithValue(ctx, ctxIdToken, idToken)"]] ∧
    mwIdTokenFrom = [.other "idToken, ok := ctx.Value(ctxIdToken).(string)", .ret [.expr "idToken", .expr "ok"]] := ⟨rfl, rfl, rfl, rfl⟩

/-- the upstream proxy preserves the inbound Host; an upstream failure is answered 502 (499 when the client went away) - never with a token-bearing retry -/
theorem upstream_proxy_shape :
    newUpstreamProxy = [.call ["rp"] "NewReverseProxy" ["upstream", "true"] [], .assign "rp.EnableAccessLogs" "enableAccessLogs",
                        .assign "rp.IncludeIdToken" "includeIdToken", .ret [.expr "rp"]] ∧
    (paths proxyErrorHandler).map (fun p => (p.conds, p.statuses)) =
      [([("errors.Is(err, context.Canceled)", true)], ["499"]), ([("errors.Is(err, context.Canceled)", false)], ["http.StatusBadGateway"])] := ⟨rfl, rfl⟩

end Ww.Proofs.GenTie.ProxyHeaders
