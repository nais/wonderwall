import Ww.Gen.Manager
/-!
# pkg/retry of the source (tie G for C11's "transient faults are absorbed")

`Ww.Model.Retry.schedule base max` assumes a FRESH Fibonacci back-off from `baseDuration`, wrapped in a budget of `maxDuration` that starts when the back-off is
made, for EVERY call of `retry.Do` / `retry.DoValue`. Decided here on the statements of pkg/retry/retry.go, regenerated on every run; the two constants are
`Ww.Gen.Consts.retryBase` / `retryMax` (same run). The library's own behaviour (sethvargo/go-retry) is tied by the `retry` driver.
-/
namespace Ww.Proofs.GenTie.Retry
open Ww.Gen.Manager

theorem retry_policy_shape :
    retryFibonacci = [.call ["b"] "retry.NewFibonacci" ["baseDuration"] [], .call ["b"] "retry.WithMaxDuration" ["maxDuration", "b"] [], .ret [.expr "b"]] ∧
    retryDo = [.ret [.expr "retry.Do(ctx, fibonacci(), f)"]] ∧
    retryDoValue = [.ret [.expr "retry.DoValue(ctx, fibonacci(), f)"]] := ⟨rfl, rfl, rfl⟩

end Ww.Proofs.GenTie.Retry
