import Ww.Model.Sys
import Ww.Proofs.GenTie.C03
/-!
# Tie G by proof for the session object's decisions (pkg/session/session.go) and the ACR gate used by the proxy
-/
namespace Ww.Proofs.GenTie
open Ww.Model Ww.Gen

/-- session.go:canRefresh (the session always carries data once read) = Model.canRefresh -/
theorem canRefresh_is_source (d : Data) (now : Int) :
    canRefresh d now = Ww.Gen.Dec.sessionCanRefresh true (d.HasRefreshToken now) (d.Metadata.IsRefreshOnCooldown now) := by
  unfold canRefresh Ww.Gen.Dec.sessionCanRefresh; simp

/-- session.go:shouldRefresh = Model.shouldRefresh -/
theorem shouldRefresh_is_source (d : Data) (now : Int) :
    shouldRefresh d now = Ww.Gen.Dec.sessionShouldRefresh true (d.Metadata.ShouldRefresh now) := by
  unfold shouldRefresh Ww.Gen.Dec.sessionShouldRefresh; simp

/-- session.go:AccessToken yields the stored token exactly when the translated guard holds -/
theorem accessToken_is_source (d : Data) (now : Int) :
    accessToken d now = (if Ww.Gen.Dec.sessionYieldsToken true (d.HasActiveAccessToken now) then some d.AccessToken else none) := by
  unfold accessToken Ww.Gen.Dec.sessionYieldsToken; simp

/-- pkg/openid/acr/acr.go:Validate = Model.acrValid (the gate in reverseproxy.go / handler/acr); `acrValid` and `Model.acrAccepts` are one function written down twice -/
theorem acrValid_is_source (e a : String) : acrValid e a = Ww.Gen.Dec.acrValidate e a := acrAccepts_is_source e a

end Ww.Proofs.GenTie
