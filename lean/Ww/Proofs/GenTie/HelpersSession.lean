import Ww.Model.HandlerSrc
import Ww.Gen.Helpers
import Ww.Gen.Consts
/-!
# Session identity, store keys and the in-memory store (tie G for C05 C07 C10)

Regenerated statement by statement from pkg/session/{id,lock,session_manager,store_memory}.go on every run.
-/
namespace Ww.Proofs.GenTie.HelpersSession
open Ww.Model.HandlerSrc Ww.Gen.Helpers Ww.Gen.Manager

private def lastRet (p : Path) : Option (List MgVal) := match p.evs.getLast? with
  | some (.ret v) => some v
  | _ => none

/-- **which external id names a session** (what front-channel logout later addresses): the ID token's `sid` when present; absent-but-required ⇒ error; else the
    `session_state` parameter; absent-but-required ⇒ error; else 64 random bytes. Never a guessable default. -/
theorem external_id_paths :
    (paths externalID).map (fun p => (p.conds, lastRet p)) =
      [([("err == nil", true)], some [.expr "sessionID", .nil]),
       ([("err == nil", false), ("err != nil && cfg.SidClaimRequired()", true)], some [.expr "\"\"", .expr "err"]),
       ([("err == nil", false), ("err != nil && cfg.SidClaimRequired()", false), ("err == nil", true)], some [.expr "sessionID", .nil]),
       ([("err == nil", false), ("err != nil && cfg.SidClaimRequired()", false), ("err == nil", false), ("err != nil && cfg.SessionStateRequired()", true)],
        some [.expr "\"\"", .expr "err"]),
       ([("err == nil", false), ("err != nil && cfg.SidClaimRequired()", false), ("err == nil", false), ("err != nil && cfg.SessionStateRequired()", false),
         ("err != nil", true)], some [.expr "\"\"", .wrap ["err"]]),
       ([("err == nil", false), ("err != nil && cfg.SidClaimRequired()", false), ("err == nil", false), ("err != nil && cfg.SessionStateRequired()", false),
         ("err != nil", false)], some [.expr "sessionID", .nil])] ∧
    (externalID.filterMap fun st => match st with | .call l fn a _ => some (l, fn, a) | _ => none) =
      [(["sessionID", "err"], "idToken.Sid", []), (["sessionID", "err"], "getSessionStateFrom", ["r"]), (["sessionID", "err"], "strings.GenerateBase64", ["64"])] ∧
    (paths getSessionStateFrom).map (fun p => (p.conds, lastRet p)) =
      [([("len(sessionState) == 0", true)], some [.expr "\"\"", .wrap []]), ([("len(sessionState) == 0", false)], some [.expr "sessionState", .nil])] := ⟨rfl, rfl, rfl⟩

/-- **store keys**: a session lives under provider:client-id:external-id; its refresh lock under that key through the lock-key template, which is "%s.lock"
    (`Gen.Consts`, same run) - the two can never collide and the lock of one session is never the lock of another -/
theorem store_keys :
    managerKey = [.call ["clientID"] "in.openidCfg.Client().ClientID" [] [], .assign "providerName" "in.cfg.OpenID.Provider",
                  .ret [.expr "fmt.Sprintf(\"%s:%s:%s\", providerName, clientID, externalSessionID)"]] ∧
    lockKey = [.ret [.expr "fmt.Sprintf(KeyTemplate, key)"]] ∧ Ww.Gen.Consts.lockKeyTemplate = "%s.lock" ∧
    newRedisLock = [.ret [.expr "&RedisLock{ locker: redislock.New(client), key: key, }"]] := ⟨rfl, rfl, rfl, rfl⟩

/-- **the in-memory store** (what `Ww.Model.Sched` assumes of it): every operation runs under the store's mutex; a missing key reads as `ErrNotFound`; a lock is
    refused only while ANOTHER holder's lease is unexpired, is taken with an expiry of now + lease, and is released only by its own holder -/
theorem memory_store_paths :
    (paths memoryRead).map (fun p => (p.conds, lastRet p)) = [([("!ok", true)], some [.nil, .wrap ["ErrNotFound"]]), ([("!ok", false)], some [.expr "data", .nil])] ∧
    memoryRead.take 3 = [.call [] "s.lock.Lock" [] [], .deferCalls ["s.lock.Unlock"], .other "data, ok := s.sessions[key]"] ∧
    memoryWrite = [.call [] "s.lock.Lock" [] [], .deferCalls ["s.lock.Unlock"], .assign "s.sessions[key]" "value", .ret [.nil]] ∧
    memoryDelete = [.call [] "s.lock.Lock" [] [], .deferCalls ["s.lock.Unlock"], .loopBegin "_, key := range keys", .call [] "delete" ["s.sessions", "key"] [], .loopEnd, .ret [.nil]] ∧
    (paths memoryLockAcquire).map (fun p => (p.conds, lastRet p)) =
      [([("found && holder != l && time.Now().Before(holder.expires)", true)], some [.expr "ErrAcquireLock"]),
       ([("found && holder != l && time.Now().Before(holder.expires)", false)], some [.nil])] ∧
    memoryLockAcquire.take 3 = [.call [] "l.store.lock.Lock" [] [], .deferCalls ["l.store.lock.Unlock"], .other "holder, found := l.store.locks[l.key]"] ∧
    (paths memoryLockAcquire).all (fun p => if lastRet p = some [.nil] then
        p.evs.contains (.call ["l.expires"] "time.Now().Add" ["duration"] []) && p.evs.contains (.assign "l.store.locks[l.key]" "l") else
        !p.evs.any (fun st => match st with | .assign .. => true | _ => false)) = true ∧
    memoryLockRelease = [.call [] "l.store.lock.Lock" [] [], .deferCalls ["l.store.lock.Unlock"], .ifBegin "l.store.locks[l.key] == l",
                         .call [] "delete" ["l.store.locks", "l.key"] [], .ifEnd, .ret [.nil]] := ⟨rfl, rfl, rfl, rfl, rfl, rfl, by decide +kernel, rfl⟩

end Ww.Proofs.GenTie.HelpersSession
