import Ww.Model.HandlerSrc
import Ww.Gen.Provider
/-!
# The grants of the source (tie G for C01 C07 C11)

`Client.RefreshGrant`, `Client.AuthCodeGrant`, the client authentication and the back-channel POST, regenerated statement by statement from
pkg/openid/client/client.go on every run. The fault model of `Ww.Proofs.C11` assumes: a 4xx answer of the provider is a CLIENT error (the refresh token was
rejected: the session becomes unauthenticated), a 5xx answer a SERVER error (retried, then fails closed), a body is handed on only from a non-error answer, and a
refresh answer is a token response only if it parsed AND carries an access token (finding F11). Decided here on every control-flow path.
-/
namespace Ww.Proofs.GenTie.Grant
open Ww.Model.HandlerSrc Ww.Gen.Provider Ww.Gen.Manager

private def lastRet (p : Path) : Option (List MgVal) := match p.evs.getLast? with
  | some (.ret v) => some v
  | _ => none

/-- **a refresh answer is accepted on one path only**: client authentication worked, the POST to the provider's TOKEN endpoint with
    `RefreshGrantParams(client id, the caller's refresh token)` + client authentication returned a body, the body parsed, and it carries an access token.
    Every other path returns (nil, error). -/
theorem refresh_grant_paths : (paths refreshGrant).all (fun p =>
    match lastRet p with
    | some [.expr "&tokenResponse", .nil] =>
      p.conds = [("err != nil", false), ("err != nil", false), ("err != nil", false), ("len(tokenResponse.AccessToken) == 0", false)] &&
      p.evs.contains (.call ["endpoint"] "c.cfg.Provider().TokenEndpoint" [] []) &&
      p.evs.contains (.call ["payload"] "openid.RefreshGrantParams(c.cfg.Client().ClientID(), refreshToken). With" ["clientAuth"] []) &&
      p.calls "c.oauthPostRequest" = [["ctx", "endpoint", "payload"]] && p.calls "json.Unmarshal" = [["body", "&tokenResponse"]] &&
      p.before "c.ClientAuthenticationParams" "c.oauthPostRequest" && p.before "c.oauthPostRequest" "json.Unmarshal"
    | some [.nil, _] => p.conds.getLast?.any (·.2)
    | _ => false) = true ∧
    ((paths refreshGrant).filter fun p => lastRet p == some [.expr "&tokenResponse", .nil]).length = 1 := by decide +kernel

/-- **error classes of the back channel**: transport failure ⇒ plain error; 4xx ⇒ `ErrOpenIDClient` (whether or not the error body parses); 5xx ⇒ `ErrOpenIDServer`;
    the body is returned only when the status is neither. The request is a POST of the url-encoded payload to the given endpoint, on the client's own http client. -/
theorem oauth_post_error_classes : (paths oauthPostRequest).all (fun p =>
    p.calls "http.NewRequestWithContext" = [["ctx", "http.MethodPost", "endpoint", "strings.NewReader(payload.URLValues().Encode())"]] &&
    (match lastRet p with
     | some [.expr "body", .nil] =>
       p.conds = [("err != nil", false), ("err != nil", false), ("err != nil", false), ("resp.StatusCode >= 400 && resp.StatusCode < 500", false), ("resp.StatusCode >= 500", false)] &&
       p.calls "c.httpClient.Do" = [["r"]] && p.calls "io.ReadAll" = [["resp.Body"]] && p.evs.contains (.deferCalls ["resp.Body.Close"])
     | some [.nil, .wrap ["ErrOpenIDClient"]] => p.took "resp.StatusCode >= 400 && resp.StatusCode < 500" true
     | some [.nil, .wrap ["ErrOpenIDServer"]] => p.took "resp.StatusCode >= 400 && resp.StatusCode < 500" false && p.took "resp.StatusCode >= 500" true
     | some [.nil, .wrap ["err"]] => p.conds.getLast? = some ("err != nil", true) && p.conds.length ≤ 3
     | _ => false)) = true ∧
    (paths oauthPostRequest).all (fun p => if p.took "resp.StatusCode >= 400 && resp.StatusCode < 500" true then lastRet p == some [.nil, .wrap ["ErrOpenIDClient"]] else true) = true ∧
    (paths oauthPostRequest).all (fun p => if p.took "resp.StatusCode >= 500" true then lastRet p == some [.nil, .wrap ["ErrOpenIDServer"]] else true) = true := by decide +kernel

/-- client authentication: a signed assertion for private_key_jwt, the secret for client_secret, an error for anything else — never an unauthenticated request -/
theorem client_auth_paths :
    (paths clientAuthenticationParams).map (fun p => (p.conds.map (·.2), lastRet p)) =
      [([true, true], some [.nil, .wrap ["err"]]), ([true, false], some [.expr "openid.ClientAuthJwtBearerParams(assertion)", .nil]),
       ([false, true], some [.expr "openid.ClientAuthSecretParams(c.cfg.Client().ClientSecret())", .nil]), ([false, false], some [.nil, .wrap []])] ∧
    (paths makeAssertion).all (fun p => match lastRet p with
      | some [.expr "string(encoded)", .nil] => p.conds.map (·.2) = [false, false] && p.calls "jwt.Sign" = [["tok", "jwt.WithKey(key.Algorithm(), key)"]] &&
          p.evs.contains (.call ["key"] "clientCfg.ClientJWK" [] [])
      | some [.expr "\"\"", .wrap ["err"]] => true
      | _ => false) = true ∧
    authCodeGrant = [.call ["ctx"] "context.WithValue" ["ctx", "oauth2.HTTPClient", "c.httpClient"] [], .ret [.expr "c.oauth2Config.Exchange(ctx, code, opts...)"]] := ⟨rfl, by decide +kernel, rfl⟩

end Ww.Proofs.GenTie.Grant
