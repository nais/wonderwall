import Ww.Model.HandlerSrc
import Ww.Model.Callback
/-!
# The callback gate of the source (tie G for C02 and C03's entry point)

`Client.LoginCallback`, the issuer-identification check, the state comparison and the code redemption, regenerated statement by statement from
pkg/openid/client/login_callback.go and pkg/openid/oauth2.go on every run; the statements below quantify over ALL their control-flow paths.
-/
namespace Ww.Proofs.GenTie.C02
open Ww.Model.HandlerSrc Ww.Gen.Handlers Ww.Gen.Manager

private def incomplete := "len(cookie.State) == 0 || len(cookie.CodeVerifier) == 0 || len(cookie.Nonce) == 0 || len(cookie.RedirectURI) == 0"

/-- **the gate, in source order**: the authorization code is handed to `redeemTokens` on exactly one path — the cookie is present and COMPLETE (state, verifier, nonce and
    redirect URI all non-empty: a logout / session ciphertext decoded as login cookie fails here), the request carries no `error`, the state comparison against the
    cookie's state passed, the issuer identification passed — and it is the request's `code` with this very cookie. Every other path returns an error and redeems nothing. -/
theorem gate_paths : (paths clientLoginCallback).all (fun p =>
    if p.called "c.redeemTokens" then
      p.conds.take 5 = [("cookie == nil", false), (incomplete, false), ("len(oauthError) > 0", false), ("err != nil", false), ("err != nil", false)] &&
      p.calls "openid.StateMismatchError" = [["query", "cookie.State"]] && p.calls "c.authorizationServerIssuerIdentification" = [["query.Get(\"iss\")"]] &&
      p.calls "c.redeemTokens" = [["r.Context()", "query.Get(\"code\")", "cookie"]] &&
      p.before "openid.StateMismatchError" "c.authorizationServerIssuerIdentification" && p.before "c.authorizationServerIssuerIdentification" "c.redeemTokens" &&
      p.evs.contains (.call ["oauthError"] "query.Get" ["\"error\""] [])
    else p.evs.getLast?.any (fun st => match st with | .ret (.nil :: .wrap [_] :: []) => true | _ => false)) = true := by decide +kernel

/-- tokens are returned only when the redemption itself returned none: the single success path -/
theorem gate_success_path : ((paths clientLoginCallback).filter fun p => p.evs.getLast? = some (.ret [.expr "tokens", .nil])).map (·.conds.map (·.2)) =
    [[false, false, false, false, false, false]] := by decide +kernel

/-- **state**: missing or different from the cookie's ⇒ error; **issuer identification**: when the provider advertises it, a missing or different `iss` ⇒ error -/
theorem state_and_issuer_checks :
    (paths stateMismatchError).map (fun p => (p.conds, p.evs.getLast?)) =
      [([("len(actualState) <= 0", true)], some (.ret [.wrap []])), ([("len(actualState) <= 0", false), ("expectedState != actualState", true)], some (.ret [.wrap []])),
       ([("len(actualState) <= 0", false), ("expectedState != actualState", false)], some (.ret [.nil]))] ∧
    stateMismatchError.head? = some (.call ["actualState"] "queryParams.Get" ["\"state\""] []) ∧
    (paths issuerIdentification).map (fun p => (p.conds, p.evs.getLast?)) =
      [([("!c.cfg.Provider().AuthorizationResponseIssParameterSupported()", true)], some (.ret [.nil])),
       ([("!c.cfg.Provider().AuthorizationResponseIssParameterSupported()", false), ("len(iss) == 0", true)], some (.ret [.wrap []])),
       ([("!c.cfg.Provider().AuthorizationResponseIssParameterSupported()", false), ("len(iss) == 0", false), ("iss != expectedIss", true)], some (.ret [.wrap []])),
       ([("!c.cfg.Provider().AuthorizationResponseIssParameterSupported()", false), ("len(iss) == 0", false), ("iss != expectedIss", false)], some (.ret [.nil]))] ∧
    issuerIdentification.contains (.call ["expectedIss"] "c.cfg.Provider().Issuer" [] []) = true := ⟨rfl, rfl, rfl, by decide +kernel⟩

/-- **redemption**: the back-channel request carries the PKCE verifier and the redirect URI of the COOKIE (nothing from the query but the code); the token response goes
    through `openid.NewTokens` with this attempt's cookie (nonce / acr of C03) and the provider's key set; tokens are returned only if nothing failed -/
theorem redeem_paths : (paths redeemTokens).all (fun p =>
    (if p.called "c.AuthCodeGrant" then
       p.evs.contains (.call ["payload"] "openid.ExchangeAuthorizationCodeParams( c.cfg.Client().ClientID(), code, cookie.CodeVerifier, cookie.RedirectURI, ).With(clientAuth).AuthCodeOptions" [] []) &&
       p.calls "c.AuthCodeGrant" = [["ctx", "code", "payload"]] && p.took "err != nil" false
     else true) &&
    (if p.evs.getLast? = some (.ret [.expr "tokens", .nil]) then
       p.conds.map (·.2) = [false, false, false, false] && p.calls "openid.NewTokens" = [["rawTokens", "jwkSet", "c.cfg", "cookie"]] &&
       p.before "c.AuthCodeGrant" "c.jwksProvider.GetPublicJwkSet" && p.before "c.jwksProvider.GetPublicJwkSet" "openid.NewTokens"
     else p.evs.getLast?.any (fun st => match st with | .ret (.nil :: _) => true | _ => false))) = true := by decide +kernel

end Ww.Proofs.GenTie.C02
