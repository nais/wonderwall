import Ww.Model.HandlerSrc
import Ww.Gen.Provider
/-!
# ID-token validation of the source (tie G for C03)

`NewTokens`, `ParseIDToken` and `IDToken.Validate`, regenerated statement by statement from pkg/openid/tokens.go on every run. The decision model of `Ww.Proofs.C03`
assumes: signature first, under the provider's key set; then the validator with required iss / sub / aud / exp / iat, issuer, audience, THIS attempt's nonce and the
skew; sid required when advertised; acr required when configured and compared with the level the login asked for; no untrusted extra audience. The statements below
decide that shape on every control-flow path of the current source. jws.Verify and jwt.Validate themselves stay library code (tied by the differential runs).
-/
namespace Ww.Proofs.GenTie.Tokens
open Ww.Model.HandlerSrc Ww.Gen.Provider Ww.Gen.Manager

private def lastRet (p : Path) : Option (List MgVal) := match p.evs.getLast? with
  | some (.ret v) => some v
  | _ => none

private def baseOpts := "[]jwt.ValidateOption{ jwt.WithRequiredClaim(\"iss\"), jwt.WithRequiredClaim(\"sub\"), jwt.WithRequiredClaim(\"aud\"), jwt.WithRequiredClaim(\"exp\"), jwt.WithRequiredClaim(\"iat\"), jwt.WithIssuer(openIDconfig.Issuer()), jwt.WithAudience(clientConfig.ClientID()), jwt.WithClaimValue(\"nonce\", cookie.Nonce), jwt.WithAcceptableSkew(AcceptableSkew), }"

/-- **every accepting path of `IDToken.Validate`** verified the signature of the serialized token under the given key set BEFORE anything else and took its success
    branch; built the option list ONCE with required iss / sub / aud / exp / iat, the provider's issuer, the client id as audience, the cookie's nonce and the skew,
    and only ever appended to it; appended "sid required" iff the provider says so; appended "acr required" iff acr values are configured and, when the login cookie
    carries a level, compared the token's acr with it and took the success branch; ran `jwt.Validate` on the token with those options and took its success branch;
    and, with more than one audience, found no untrusted one. -/
theorem validate_accepting_paths : (paths idTokenValidate).all (fun p =>
    if lastRet p != some [.nil] then true else
      p.calls "jws.Verify" = [["[]byte(in.Serialized())", "jws.WithKeySet(*jwks)"]] &&
      p.conds.head? = some ("err != nil", false) &&
      p.before "jws.Verify" "jwt.Validate" &&
      (p.evs.filterMap fun st => match st with | .assign "opts" r => some r | _ => none) = [baseOpts] &&
      (p.calls "append").all (fun a => a.head? = some "opts" || a.head? = some "untrusted") &&
      (p.evs.all fun st => match st with | .call lhs fn _ _ => !lhs.contains "opts" || fn = "append" | _ => true) &&
      p.calls "jwt.Validate" = [["in.Token", "opts"]] &&
      ((p.calls "append").contains ["opts", "jwt.WithRequiredClaim(SidClaim)"] == p.took "openIDconfig.SidClaimRequired()" true) &&
      ((p.calls "append").contains ["opts", "jwt.WithRequiredClaim(AcrClaim)"] == p.took "len(clientConfig.ACRValues()) > 0" true) &&
      (if p.took "len(cookie.Acr) > 0" true then
         p.calls "acr.Validate" = [["expected", "actual"]] && p.evs.contains (.assign "expected" "cookie.Acr") && p.evs.contains (.call ["actual"] "in.Acr" [] []) &&
         p.before "acr.Validate" "jwt.Validate"
       else !p.called "acr.Validate") &&
      (p.took "len(cookie.Acr) > 0" true || p.took "len(cookie.Acr) > 0" false) == p.took "len(clientConfig.ACRValues()) > 0" true &&
      (if p.took "len(audiences) > 1" true then p.took "len(untrusted) > 0" false && p.calls "clientConfig.Audiences" = [[]] else true) &&
      p.calls "in.Audience" = [[]]) = true := by decide +kernel

/-- every failing step is an exit with that step's error: signature, acr comparison, validator, untrusted audience — nothing is swallowed -/
theorem validate_rejecting_paths :
    ((paths idTokenValidate).filter (fun p => lastRet p != some [.nil])).all (fun p =>
      match p.conds.getLast?, lastRet p with
      | some ("err != nil", true), some [.wrap ["err"]] => p.conds.length = 1                 -- the signature
      | some ("err != nil", true), some [.expr "err"] => true                                  -- acr comparison or validator
      | some ("len(untrusted) > 0", true), some [.wrap []] => true
      | _, _ => false) = true ∧
    (paths idTokenValidate).all (fun p => (p.conds.filter (· == ("err != nil", true))).length ≤ 1 && p.returned) = true ∧
    (paths idTokenValidate).any (fun p => lastRet p == some [.nil]) = true := by decide +kernel

/-- the untrusted-audience loop collects exactly the audiences the client does not trust -/
theorem untrusted_audience_loop :
    (idTokenValidate.dropWhile (· != .loopBegin "_, audience := range audiences")).take 5 =
      [.loopBegin "_, audience := range audiences", .ifBegin "!trusted[audience]", .call ["untrusted"] "append" ["untrusted", "audience"] [], .ifEnd, .loopEnd] := rfl

/-- **tokens exist only behind the validation**: `NewTokens` returns tokens on ONE path: an `id_token` string was present, it parsed, and `Validate(cfg, cookie, jwks)`
    — with THIS attempt's cookie — returned no error; the returned ID token is the validated one. Parsing itself neither verifies nor validates (both are Validate's). -/
theorem new_tokens_paths :
    (paths newTokens).map (fun p => (p.conds, lastRet p)) =
      [([("!ok", true)], some [.nil, .wrap []]),
       ([("!ok", false), ("err != nil", true)], some [.nil, .wrap ["err"]]),
       ([("!ok", false), ("err != nil", false), ("err != nil", true)], some [.nil, .wrap ["err"]]),
       ([("!ok", false), ("err != nil", false), ("err != nil", false)],
        some [.expr "&Tokens{ AccessToken: src.AccessToken, Expiry: src.Expiry, IDToken: idToken, RefreshToken: src.RefreshToken, TokenType: src.TokenType, }", .nil])] ∧
    (paths newTokens).all (fun p => if p.conds.length = 3 then
        p.calls "ParseIDToken" = [["rawIdToken"]] && p.calls "idToken.Validate" = [["cfg", "cookie", "jwks"]] && p.before "ParseIDToken" "idToken.Validate" else true) = true ∧
    newTokens.head? = some (.other "rawIdToken, ok := src.Extra(\"id_token\").(string)") ∧
    (paths parseIDToken).map (fun p => (p.conds, lastRet p)) =
      [([("err != nil", true)], some [.nil, .wrap ["err"]]), ([("err != nil", false)], some [.expr "NewIDToken(raw, idToken)", .nil])] := ⟨rfl, by decide +kernel, rfl, rfl⟩

/-- claims: a missing claim or a claim of another type is an error, never a default; `Sid` is the string claim, `Acr` the string-or-empty claim -/
theorem claim_paths :
    (paths idTokenClaim).map (fun p => (p.conds, lastRet p)) =
      [([("in.Token == nil", true)], some [.nil, .wrap []]), ([("in.Token == nil", false), ("!ok", true)], some [.nil, .wrap []]),
       ([("in.Token == nil", false), ("!ok", false)], some [.expr "gotClaim", .nil])] ∧
    (paths idTokenStringClaim).map (fun p => (p.conds, lastRet p)) =
      [([("err != nil", true)], some [.expr "\"\"", .expr "err"]), ([("err != nil", false), ("!ok", true)], some [.expr "\"\"", .wrap []]),
       ([("err != nil", false), ("!ok", false)], some [.expr "claimString", .nil])] ∧
    idTokenSid = [.ret [.expr "in.StringClaim(SidClaim)"]] ∧ idTokenAcr = [.ret [.expr "in.StringClaimOrEmpty(AcrClaim)"]] := ⟨rfl, rfl, rfl, rfl⟩

end Ww.Proofs.GenTie.Tokens
