import Ww.Model.HandlerSrc
import Ww.Gen.Envelope
/-!
# The sealing envelope of the source (tie G for C09)

`Ww.Gen.Envelope.*` is regenerated on every run from internal/crypto/crypter.go, pkg/cookie/cookie.go, pkg/session/ticket.go, pkg/session/data.go and
pkg/session/session.go, one entry per statement in source order. The symbolic model of `Ww.Proofs.C09` treats "seal" and "open" as AEAD operations with a fresh
nonce, the cookie as base64 of a sealed value under the deployment key and the store value as the session data sealed under the ticket's own data key. The
statements below say that the CURRENT source has exactly that shape, on every control-flow path. XChaCha20-Poly1305 itself and crypto/rand stay assumptions
(H-AEAD, H-RND); what is decided here is that the code calls them, in this order, with these operands, and never returns a value that skipped them.
-/
namespace Ww.Proofs.GenTie.C09
open Ww.Model.HandlerSrc Ww.Gen.Envelope Ww.Gen.Manager

private def lastRet (p : Path) : Option (List MgVal) := match p.evs.getLast? with
  | some (.ret v) => some v
  | _ => none

private def failsWithNil (p : Path) : Bool := match lastRet p with
  | some (.nil :: _ :: []) => true
  | _ => false

/-- **seal**: the only path that returns a ciphertext has built the AEAD from the crypter's own key, made a nonce of the AEAD's nonce size, FILLED IT from
    crypto/rand (and checked that read's error) and returns `Seal(nonce, nonce, plaintext, nil)`: nonce ‖ ciphertext ‖ tag. Every other path returns no bytes. -/
theorem seal_shape : (paths crypterEncrypt).all (fun p =>
    if failsWithNil p then true else
      lastRet p = some [.expr "aead.Seal(nonce, nonce, plaintext, nil)", .nil] &&
      p.calls "chacha20poly1305.NewX" = [["c.key"]] &&
      p.calls "make" = [["[]byte", "aead.NonceSize()", "aead.NonceSize() + plaintextSize + aead.Overhead()"]] &&
      p.calls "cryptorand.Read" = [["nonce"]] &&
      p.before "chacha20poly1305.NewX" "make" && p.before "make" "cryptorand.Read" &&
      p.conds = [("err != nil", false), ("plaintextSize > MaxPlaintextSize", false), ("err != nil", false)]) = true ∧
    ((paths crypterEncrypt).filter (fun p => !failsWithNil p)).length = 1 ∧
    -- `cryptorand` in that file IS crypto/rand
    crypterImports.contains "cryptorand=crypto/rand" = true ∧ crypterImports.contains "golang.org/x/crypto/chacha20poly1305" = true := by decide +kernel

/-- **open**: the only path that returns the AEAD's verdict has built the AEAD from the crypter's own key, refused anything shorter than a nonce, split the input
    at the nonce size and returns `Open(nil, nonce, encrypted, nil)` unchanged (plaintext AND error: a failed tag check is the caller's error). -/
theorem open_shape : (paths crypterDecrypt).all (fun p =>
    if failsWithNil p then true else
      lastRet p = some [.expr "aead.Open(nil, nonce, encrypted, nil)"] &&
      p.calls "chacha20poly1305.NewX" = [["c.key"]] &&
      p.evs.contains (.other "nonce, encrypted := ciphertext[:aead.NonceSize()], ciphertext[aead.NonceSize():]") &&
      p.conds = [("err != nil", false), ("len(ciphertext) < aead.NonceSize()", false)]) = true ∧
    ((paths crypterDecrypt).filter (fun p => !failsWithNil p)).length = 1 := by decide +kernel

/-- **deployment key**: whatever `EncryptionKeyOrGenerate` returns as key has passed the length check against the AEAD's key size; a configured key that does not
    decode is an error, not a silently generated one -/
theorem key_length_enforced : (paths encryptionKeyOrGenerate).all (fun p =>
    if failsWithNil p then true else
      lastRet p = some [.expr "key", .nil] && p.took "len(key) != chacha20poly1305.KeySize" false &&
      (if p.took "len(cfg.EncryptionKey) == 0" true then p.calls "keygen.Keygen" = [["KeySize"]] else !p.called "keygen.Keygen")) = true ∧
    (paths encryptionKeyOrGenerate).any (fun p => p.conds = [("err != nil", true), ("len(cfg.EncryptionKey) > 0", true)] && failsWithNil p) = true := by decide +kernel

/-- **a cookie value is base64(seal(value))**: the value is replaced only by the encoding of what `crypter.Encrypt` returned for the old value's bytes; when sealing
    fails no cookie comes back, and `EncryptAndSet` writes a cookie only on the path where sealing succeeded — the sealed one -/
theorem cookie_seal :
    (paths cookieEncrypt).all (fun p =>
      if failsWithNil p then !p.evs.any (fun st => match st with | .assign .. => true | _ => false) else
        lastRet p = some [.expr "in", .nil] &&
        p.evs = [.call ["plaintext"] "[]byte" ["in.Cookie.Value"] [], .call ["ciphertext", "err"] "crypter.Encrypt" ["plaintext"] [],
                 .call ["value"] "base64.RawURLEncoding.EncodeToString" ["ciphertext"] [], .assign "in.Cookie.Value" "value", .ret [.expr "in", .nil]]) = true ∧
    (paths cookieEncryptAndSet).all (fun p =>
      p.calls "Make(key, value, opts).Encrypt" = [["crypter"]] &&
      (if p.called "Set" then p.calls "Set" = [["w", "encryptedCookie"]] && p.conds = [("err != nil", false)] && p.before "Make(key, value, opts).Encrypt" "Set"
       else lastRet p = some [.expr "err"] && p.conds = [("err != nil", true)])) = true ∧
    cookieSet = [.call [] "http.SetCookie" ["w", "cookie.Cookie"] []] := ⟨by decide +kernel, by decide +kernel, rfl⟩

/-- **a cookie opens only through base64 + open**: undecodable ⇒ `ErrInvalidValue`, not opening ⇒ `ErrDecrypt` (both with an empty value); a value is returned
    only after `crypter.Decrypt` returned no error. `GetDecrypted` is `Get` then `Decrypt` with the caller's crypter. -/
theorem cookie_open :
    (paths cookieDecrypt).map (fun p => (p.conds.map (·.2), lastRet p)) =
      [([true], some [.expr "\"\"", .wrap ["ErrInvalidValue", "err"]]), ([false, true], some [.expr "\"\"", .wrap ["ErrDecrypt", "err"]]),
       ([false, false], some [.expr "string(plaintext)", .expr "err"])] ∧
    (paths cookieDecrypt).all (fun p => p.calls "base64.RawURLEncoding.DecodeString" = [["in.Value"]] &&
      (if lastRet p = some [.expr "string(plaintext)", .expr "err"] then p.calls "crypter.Decrypt" = [["ciphertext"]] else true)) = true ∧
    (paths cookieGetDecrypted).map (fun p => (p.conds, lastRet p)) =
      [([("err != nil", true)], some [.expr "\"\"", .expr "err"]), ([("err != nil", false)], some [.expr "encryptedCookie.Decrypt(crypter)"])] ∧
    cookieGetDecrypted.head? = some (.call ["encryptedCookie", "err"] "Get" ["r", "key"] []) := ⟨rfl, by decide +kernel, rfl, rfl⟩

/-- **the ticket**: read from the SESSION cookie with the caller's (deployment) crypter; no cookie ⇒ not found; undecodable or not opening ⇒ invalid; anything
    that does not parse as a ticket ⇒ error. A ticket is returned on exactly one path: the cookie opened and parsed. -/
theorem ticket_paths : (paths getTicket).all (fun p =>
    p.calls "cookie.GetDecrypted" = [["r", "cookie.Session", "crypter"]] &&
    (if failsWithNil p then true else
      lastRet p = some [.expr "&ticket", .nil] && p.calls "json.Unmarshal" = [["[]byte(ticketJson)", "&ticket"]] &&
      p.conds.map (·.2) = [false, false, false, false])) = true ∧
    ((paths getTicket).filter failsWithNil).map (fun p => (p.conds.getLast?.map (·.1), lastRet p)) =
      [(some "errors.Is(err, http.ErrNoCookie)", some [.nil, .wrap ["ErrNotFound"]]),
       (some "errors.Is(err, cookie.ErrInvalidValue) || errors.Is(err, cookie.ErrDecrypt)", some [.nil, .wrap ["ErrInvalid", "err"]]),
       (some "err != nil", some [.nil, .expr "err"]), (some "err != nil", some [.nil, .wrap ["err"]])] := ⟨by decide +kernel, rfl⟩

/-- **the data key**: a new ticket carries a key of the AEAD's key size from the key generator; the ticket's crypter is made from THAT key and nothing else; the ticket
    goes out through `EncryptAndSet` under the session cookie's name with the caller's crypter -/
theorem ticket_key_is_fresh_and_own :
    (paths newTicket).map (fun p => (p.conds, lastRet p)) =
      [([("err != nil", true)], some [.nil, .wrap ["err"]]), ([("err != nil", false)], some [.expr "&Ticket{SessionKey: sessionKey, EncryptionKey: encKey}", .nil])] ∧
    newTicket.head? = some (.call ["encKey", "err"] "keygen.Keygen" ["crypto.KeySize"] []) ∧
    (paths ticketCrypter).all (fun p => lastRet p = some [.expr "c.crypter"] &&
      (if p.took "c.crypter == nil" true then p.evs.contains (.call ["c.crypter"] "crypto.NewCrypter" ["c.EncryptionKey"] []) else p.evs.length = 1)) = true ∧
    (ticketCrypter.all fun st => match st with | .call lhs fn args _ => lhs = ["c.crypter"] && fn = "crypto.NewCrypter" && args = ["c.EncryptionKey"] | .assign .. => false | _ => true) = true ∧
    (paths ticketSetCookie).map (fun p => (p.conds, lastRet p)) =
      [([("err != nil", true)], some [.wrap ["err"]]), ([("err != nil", false)], some [.expr "cookie.EncryptAndSet(w, cookie.Session, string(b), opts, crypter)"])] ∧
    sessionSetCookie = [.ret [.expr "in.ticket.SetCookie(w, opts, crypter)"]] ∧ ticketKey = [.ret [.expr "c.SessionKey"]] ∧
    sessionKey = [.ret [.expr "in.ticket.Key()"]] := ⟨rfl, rfl, by decide +kernel, by decide +kernel, rfl, rfl, rfl, rfl⟩

/-- **the store value is seal(json(data)) under the ticket's key**: `Session.encrypt` seals with `in.ticket.Crypter()`; `Data.Encrypt` returns only what
    `crypter.Encrypt` returned for the marshalled data; `EncryptedData.Decrypt` returns data only after the ciphertext opened and parsed -/
theorem data_sealed_with_ticket_key :
    sessionEncrypt = [.ret [.expr "in.data.Encrypt(in.ticket.Crypter())"]] ∧
    (paths dataEncrypt).all (fun p =>
      if failsWithNil p then true else
        lastRet p = some [.expr "&EncryptedData{ Ciphertext: ciphertext, }", .nil] &&
        p.calls "json.Marshal" = [["in"]] && p.calls "crypter.Encrypt" = [["bytes"]] && p.before "json.Marshal" "crypter.Encrypt" &&
        p.conds.map (·.2) = [false, false]) = true ∧
    ((paths dataEncrypt).filter (fun p => !failsWithNil p)).length = 1 ∧
    (paths encryptedDataDecrypt).all (fun p =>
      p.calls "crypter.Decrypt" = [["in.Ciphertext"]] &&
      (if failsWithNil p then true else
        lastRet p = some [.expr "&data", .nil] && p.calls "json.Unmarshal" = [["rawData", "&data"]] && p.conds.map (·.2) = [false, false])) = true ∧
    ((paths encryptedDataDecrypt).filter (fun p => !failsWithNil p)).length = 1 ∧
    newSession = [.ret [.expr "&Session{data: data, ticket: ticket}"]] := ⟨rfl, by decide +kernel, by decide +kernel, by decide +kernel, by decide +kernel, rfl⟩

/-- **what counts as a session**: no access token ⇒ invalid; ended ⇒ invalid; timed out ⇒ invalid AND inactive; otherwise valid. The access token is handed out
    only while active, else `ErrInvalid` with an empty string. -/
theorem data_validate_paths :
    (paths dataValidate).map (fun p => (p.conds, lastRet p)) =
      [([("!in.HasAccessToken()", true)], some [.wrap ["ErrInvalid"]]),
       ([("!in.HasAccessToken()", false), ("in.Metadata.IsEnded()", true)], some [.wrap ["ErrInvalid"]]),
       ([("!in.HasAccessToken()", false), ("in.Metadata.IsEnded()", false), ("in.Metadata.IsTimedOut()", true)], some [.wrap ["ErrInvalid", "ErrInactive"]]),
       ([("!in.HasAccessToken()", false), ("in.Metadata.IsEnded()", false), ("in.Metadata.IsTimedOut()", false)], some [.nil])] ∧
    (paths sessionAccessToken).map (fun p => (p.conds, lastRet p)) =
      [([("in.data != nil && in.data.HasActiveAccessToken()", true)], some [.expr "in.data.AccessToken", .nil]),
       ([("in.data != nil && in.data.HasActiveAccessToken()", false)], some [.expr "\"\"", .wrap ["ErrInvalid"]])] := ⟨rfl, rfl⟩

end Ww.Proofs.GenTie.C09
