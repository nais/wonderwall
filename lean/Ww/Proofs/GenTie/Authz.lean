import Ww.Model.HandlerSrc
/-!
# How the authorization request is built, read off the source (tie G for C13; C18 for where client credentials go)

pkg/openid/client/login.go and the parameter helpers of pkg/openid/oauth2.go, regenerated statement by statement on every run.
-/
namespace Ww.Proofs.GenTie.Authz
open Ww.Model.HandlerSrc Ww.Gen.Handlers Ww.Gen.Manager

/-- **fresh values per visit**: state and nonce are 32 random bytes each (256 bits, base64), the PKCE verifier comes from `oauth2.GenerateVerifier`, the redirect URI from the
    callback URL of the MATCHING INGRESS of this request (`url.LoginCallback`), level / locale / prompt from the guarded getters (`GenTie.C13`) — on the one path that yields parameters -/
theorem new_params_paths :
    ((paths newAuthorizationCodeParams).filter fun p => !p.took "err != nil" true).map (fun p => (p.evs.filterMap fun st => match st with | .call l f a _ => some (l, f, a) | _ => none)) =
      [[(["callbackURL", "err"], "url.LoginCallback", ["r"]), (["nonce", "err"], "strings.GenerateBase64", ["32"]), (["state", "err"], "strings.GenerateBase64", ["32"])]] ∧
    newAuthorizationCodeParams.getLast? = some (.ret [.expr "openid.AuthorizationCodeParams{ AcrValues: getAcrParam(c, r), ClientID: c.oauth2Config.ClientID, CodeVerifier: oauth2.GenerateVerifier(), Nonce: nonce, Prompt: getPromptParam(r), RedirectURI: callbackURL, Resource: c.cfg.Client().ResourceIndicator(), Scope: c.oauth2Config.Scopes, State: state, UILocales: getLocaleParam(c, r), }", .nil]) := ⟨rfl, rfl⟩

/-- **the request parameters**: response_type=code, an S256 challenge OF THE VERIFIER, the state / nonce / redirect URI of these very parameters; acr_values, ui_locales, prompt (with
    max_age=0) and resource only when set -/
theorem request_params_shape :
    authRequestParams.head? = some (.assign "params" "RequestParams{ \"client_id\": a.ClientID, \"code_challenge\": oauth2.S256ChallengeFromVerifier(a.CodeVerifier), \"code_challenge_method\": \"S256\", \"nonce\": a.Nonce, \"redirect_uri\": a.RedirectURI, \"response_mode\": \"query\", \"response_type\": \"code\", \"scope\": a.Scope.String(), \"state\": a.State, }") ∧
    (authRequestParams.filterMap fun st => match st with | .assign l r => some (l, r) | _ => none).drop 1 =
      [("params[\"acr_values\"]", "a.AcrValues"), ("params[\"ui_locales\"]", "a.UILocales"), ("params[\"prompt\"]", "a.Prompt"), ("params[\"max_age\"]", "\"0\""), ("params[\"resource\"]", "a.Resource")] ∧
    authRequestParams.getLast? = some (.ret [.expr "params"]) := ⟨rfl, rfl, rfl⟩

/-- **what is sealed into the login cookie** is the verifier, nonce, state and redirect URI OF THE SAME parameters the request was built from (plus the requested level), and
    `Client.Login` hands out exactly that cookie with that URL -/
theorem cookie_binds_the_request :
    authCookie = [.ret [.expr "LoginCookie{ Acr: a.AcrValues, CodeVerifier: a.CodeVerifier, Nonce: a.Nonce, State: a.State, RedirectURI: a.RedirectURI, }"]] ∧
    (paths clientLogin).all (fun p =>
      if p.evs.getLast? = some (.ret [.expr "&Login{ AuthCodeURL: authCodeURL, AuthorizationCodeParams: request, Cookie: request.Cookie(), }", .nil]) then
        p.evs.contains (.call ["request", "err"] "c.newAuthorizationCodeParams" ["r"] []) && p.evs.contains (.call ["authCodeURL", "err"] "c.authCodeURL" ["r.Context()", "request"] []) &&
        p.took "err != nil" false
      else p.evs.getLast?.any (fun st => match st with | .ret (.nil :: _) => true | _ => false)) = true ∧
    loginSetCookie.head? = some (.assign "l.Cookie.Referer" "canonicalRedirect") ∧
    loginSetCookie.getLast? = some (.ret [.expr "cookie.EncryptAndSet(w, cookie.Login, value, opts, crypter)"]) := ⟨rfl, by decide +kernel, rfl, rfl⟩

/-- **front channel vs back channel**: with pushed authorization requests the parameters AND the client credentials go to the PAR endpoint (back channel, retried only on a provider
    5xx) and the browser's URL carries nothing but client_id and request_uri; without PAR the browser's URL carries the request parameters and NO client credentials; a refused
    PAR is an error — never a fall-back to the front channel -/
theorem auth_code_url_paths : (paths authCodeURL).all (fun p =>
    if p.took "usePushedAuthorization" true then
      (if p.evs.getLast? = some (.ret [.expr "c.makeAuthCodeURL(openid.ParAuthorizationRequestParams( c.oauth2Config.ClientID, resp.RequestUri, ))", .nil]) then
         p.evs.contains (.retry ["resp", "err"] "c.oauthPostRequest" ["ctx", "endpoint", "authCodeParams.RequestParams().With(clientAuth)"] false ["ErrOpenIDServer"] []) &&
         p.evs.contains (.call ["clientAuth", "err"] "c.ClientAuthenticationParams" [] []) && p.evs.contains (.call ["endpoint"] "c.cfg.Provider().PushedAuthorizationRequestEndpoint" [] [])
       else p.evs.getLast?.any (fun st => match st with | .ret [.expr "\"\"", .wrap _] => true | _ => false))
    else p.evs.getLast? = some (.ret [.expr "c.makeAuthCodeURL(authCodeParams.RequestParams())", .nil]) && !p.called "c.ClientAuthenticationParams") = true ∧
    authCodeURL.head? = some (.assign "usePushedAuthorization" "len(c.cfg.Provider().PushedAuthorizationRequestEndpoint()) > 0") ∧
    parRequestParams = [.ret [.expr "RequestParams{ \"client_id\": clientID, \"request_uri\": requestUri, }"]] := ⟨by decide +kernel, rfl, rfl⟩

end Ww.Proofs.GenTie.Authz
