import Ww.Gen.Provider
/-!
# What the ID-token checks compare against (tie G for C02 C03)

The getters `IDToken.Validate`, the callback gate and the grants read their reference values from, regenerated from pkg/openid/config/{provider,client}.go and
pkg/config/openid.go on every run: issuer, key-set URI and token endpoint are the DISCOVERY document's; "sid required" is front-channel logout with session
support, as the provider advertises it; the trusted audiences are the client id plus the configured extra audiences and nothing else.
-/
namespace Ww.Proofs.GenTie.ProviderCfg
open Ww.Gen.Provider Ww.Gen.Manager

theorem reference_values :
    providerIssuer = [.ret [.expr "p.metadata.Issuer"]] ∧ providerJwksURI = [.ret [.expr "p.metadata.JwksURI"]] ∧
    providerTokenEndpoint = [.ret [.expr "p.metadata.TokenEndpoint"]] ∧
    sidClaimRequired = [.ret [.expr "p.metadata.FrontchannelLogoutSupported && p.metadata.FrontchannelLogoutSessionSupported"]] ∧
    sessionStateRequired = [.ret [.expr "len(p.metadata.CheckSessionIframe) > 0"]] ∧
    issParameterSupported = [.ret [.expr "p.metadata.AuthorizationResponseIssParameterSupported"]] ∧
    clientClientID = [.ret [.expr "in.OpenID.ClientID"]] ∧ clientAudiences = [.ret [.expr "in.trustedAudiences"]] := ⟨rfl, rfl, rfl, rfl, rfl, rfl, rfl, rfl⟩

/-- trusted audiences = { client id } ∪ configured audiences - built once from the configuration, no wildcard, no default entry -/
theorem trusted_audiences_shape :
    trustedAudiences = [.call ["m"] "make" ["map[string]bool"] [], .assign "m[in.ClientID]" "true", .loopBegin "_, aud := range in.Audiences", .assign "m[aud]" "true",
                        .loopEnd, .ret [.expr "m"]] ∧
    supportedContains = [.loopBegin "_, allowed := range in", .ifBegin "allowed == value", .ret [.expr "true"], .ifEnd, .loopEnd, .ret [.expr "false"]] := ⟨rfl, rfl⟩

end Ww.Proofs.GenTie.ProviderCfg
