import Ww.Model.HandlerSrc
/-!
# The SSO proxy's and the SSO server's own handlers, read off the source (tie G for C16)

Every function of `handler_sso_proxy.go` / `handler_sso_server.go` that serves a route, regenerated statement by statement on each run.
-/
namespace Ww.Proofs.GenTie.C16
open Ww.Model.HandlerSrc Ww.Gen.Handlers Ww.Gen.Manager

/-- everything an SSO-proxy route handler calls -/
def proxyHandlers : List (List MgStmt) := [proxyLogin, proxyLoginCallback, proxyLogout, proxyLogoutCallback, proxyLogoutFrontChannel, proxyLogoutLocal,
  proxySession, proxySessionRefresh, proxySessionForwardAuth, proxyWildcard, proxyGetSession, proxyGetSSOServerURL]

def callsOf (l : List MgStmt) : List String := l.filterMap fun st => match st with | .call _ fn _ _ => some fn | .retry _ fn _ _ _ _ => some fn | _ => none

/-- the ONLY functions an SSO proxy handler calls: URL building, redirects to / relaying through the SSO server, the shared reverse proxy — no session manager,
    no store, no OpenID client -/
def proxyAllowed : List String := ["s.GetSSOServerURL", "target.Query", "targetQuery.Set", "r.URL.Query", "targetQuery.Encode", "s.Redirect.Canonical", "url.Login", "url.Logout",
  "url.LoginRelative", "http.Redirect", "s.GetPath", "r.URL.Query().Get", "s.GetSSOServerURL().JoinPath", "removeMiddlewareHeaders", "s.SSOServerReverseProxy.ServeHTTP", "s.UpstreamProxy.Handler"]

/-- **read-only delegate**: no SSO-proxy handler calls anything outside that list; its one session access is the reader's `Get` (never GetOrRefresh / Refresh / Create / Delete) -/
theorem proxy_calls_only_delegation :
    proxyHandlers.all (fun h => (callsOf h).all fun fn => proxyAllowed.contains fn) = true ∧
    proxyGetSession = [.ret [.expr "s.SessionReader.Get(r)"]] := ⟨by decide +kernel, rfl⟩

/-- login / logout hand the SSO server a redirect that went through `Redirect.Canonical` (confined to the proxy's own ingress, C04) and nothing else from the request
    but level / locale / prompt; each call works on its OWN COPY of the configured server URL -/
theorem proxy_login_logout_shape :
    (paths proxyLogin).all (fun p =>
      p.evs.head? = some (.call ["target"] "s.GetSSOServerURL" [] []) &&
      p.evs.contains (.call ["canonicalRedirect"] "s.Redirect.Canonical" ["r"] []) && p.evs.contains (.call ["ssoServerLoginURL"] "url.Login" ["target", "canonicalRedirect"] []) &&
      p.evs.getLast? = some (.call [] "http.Redirect" ["w", "r", "ssoServerLoginURL", "http.StatusFound"] []) &&
      (p.calls "targetQuery.Set").all (fun a => ["openidclient.QueryParamSecurityLevel", "openidclient.QueryParamLocale", "openidclient.QueryParamPrompt"].contains (a.headD ""))) = true ∧
    (paths proxyLogout).all (fun p =>
      p.evs.head? = some (.call ["target"] "s.GetSSOServerURL" [] []) &&
      (p.took "canonicalRedirect != \"\"" false || p.evs.contains (.call ["canonicalRedirect"] "s.Redirect.Canonical" ["r"] [])) &&
      p.evs.getLast? = some (.call [] "http.Redirect" ["w", "r", "ssoServerLogoutURL", "http.StatusFound"] [])) = true ∧
    proxyGetSSOServerURL = [.assign "u" "*s.SSOServerURL", .ret [.expr "&u"]] := ⟨by decide +kernel, by decide +kernel, rfl⟩

/-- session management and the non-interactive logouts are RELAYED to the SSO server (path rewritten to the server's own endpoint), never handled locally -/
theorem proxy_relays :
    [proxyLogoutFrontChannel, proxyLogoutLocal, proxySession, proxySessionRefresh, proxySessionForwardAuth].map (fun h => (h.head?, h.drop 1)) =
      ["paths.OAuth2 + paths.LogoutFrontChannel", "paths.OAuth2 + paths.LogoutLocal", "paths.OAuth2 + paths.Session", "paths.OAuth2 + paths.Session + paths.Refresh",
       "paths.OAuth2 + paths.Session + paths.ForwardAuth"].map (fun t =>
        (some (MgStmt.assign "r.URL.Path" t), [.call [] "removeMiddlewareHeaders" ["w"] [], .call [] "s.SSOServerReverseProxy.ServeHTTP" ["w", "r"] []])) := rfl

/-- **the SSO server never proxies**: its catch-all only redirects to the configured default URL; its logout variants clear the legacy cookies with the request's
    (domain-scoped) options and then run the standalone handlers -/
theorem server_wildcard_and_logouts :
    serverWildcard = [.call [] "http.Redirect" ["w", "r", "s.Config.SSO.ServerDefaultRedirectURL", "http.StatusFound"] []] ∧
    [serverLogout, serverLogoutFrontChannel, serverLogoutLocal].map (fun h => h.head?) =
      [some (.call [] "cookie.ClearLegacyCookies" ["w", "s.GetCookieOptions(r)"] []), some (.call [] "cookie.ClearLegacyCookies" ["w", "s.GetCookieOptions(r)"] []),
       some (.call [] "cookie.ClearLegacyCookies" ["w", "s.GetCookieOptions(r)"] [])] ∧
    [serverLogout, serverLogoutFrontChannel, serverLogoutLocal].map callsOf =
      [["cookie.ClearLegacyCookies", "s.Standalone.Logout"], ["cookie.ClearLegacyCookies", "s.Standalone.LogoutFrontChannel"], ["cookie.ClearLegacyCookies", "s.Standalone.LogoutLocal"]] := ⟨rfl, rfl, rfl⟩

end Ww.Proofs.GenTie.C16
