import Ww.Gen.Dec
import Ww.Model.Router
/-!
# Tie G by proof: IsNavigationRequest / HasSecFetchMetadata (internal/http/request.go) are the model's `isNavigation` / `hasSecFetchMetadata`
-/
namespace Ww.Proofs.GenTie
open Ww.Model

/-- internal/http/request.go:IsNavigationRequest = Model.isNavigation (C15, C12) -/
theorem isNavigation_is_source (method : String) (hdr : String → String) (acc : Bool) :
    isNavigation method (hdr "Sec-Fetch-Mode") (hdr "Sec-Fetch-Dest") acc = Ww.Gen.Dec.isNavigationRequest method hdr acc := by
  unfold isNavigation Ww.Gen.Dec.isNavigationRequest
  by_cases hm : method = "GET" <;> simp [hm]

/-- internal/http/request.go:HasSecFetchMetadata = Model.hasSecFetchMetadata (C15) -/
theorem hasSecFetchMetadata_is_source (hdr : String → String) :
    hasSecFetchMetadata (hdr "Sec-Fetch-Mode") (hdr "Sec-Fetch-Dest") = Ww.Gen.Dec.hasSecFetchMetadata hdr := by
  unfold hasSecFetchMetadata Ww.Gen.Dec.hasSecFetchMetadata; rfl

end Ww.Proofs.GenTie
