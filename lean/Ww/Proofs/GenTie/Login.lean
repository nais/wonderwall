import Ww.Model.HandlerSrc
/-!
# Login, rate limit, error responder and retry target of the source (tie G for C04 C13 C14 C15 C16 C17)
-/
namespace Ww.Proofs.GenTie.Login
open Ww.Model.HandlerSrc Ww.Gen.Handlers Ww.Gen.Manager

/-- **cookie scope per mode** (C14 C16): SSO modes use the configured options as they are (Domain = SSO domain); standalone narrows them to the matching ingress path -/
theorem cookie_options_choice : getCookieOptions =
    [.ifBegin "s.Config.SSO.Enabled", .ret [.expr "s.CookieOptions"], .ifEnd, .call ["path"] "s.GetPath" ["r"] [], .ret [.expr "s.CookieOptions.WithPath(path)"]] := rfl

/-- **login** (C13 C14 C17): the browser is sent to the provider only after the authorization request was built, the rate limit passed and the login cookie — sealed with the
    canonical redirect, scoped by the request's cookie options, SameSite=Lax — was set; the Location is the request built for THIS attempt; a rate-limited attempt answers 429
    and sets no login cookie; `prompt` first destroys the local session and clears its cookie with the request's options -/
theorem login_paths : (paths login).all (fun p =>
    (if p.called "http.Redirect" then
       p.calls "http.Redirect" = [["w", "r", "login.AuthCodeURL", "http.StatusFound"]] && p.took "err != nil" false &&
       p.before "s.Client.Login" "s.applyLoginRateLimit" && p.before "s.applyLoginRateLimit" "login.SetCookie" && p.before "login.SetCookie" "http.Redirect" &&
       p.calls "login.SetCookie" = [["w", "opts", "s.Crypter", "canonicalRedirect"]] &&
       p.evs.contains (.call ["opts"] "s.GetCookieOptions(r).WithSameSite" ["http.SameSiteLaxMode"] []) &&
       p.evs.head? = some (.call ["canonicalRedirect"] "s.Redirect.Canonical" ["r"] []) &&
       !(p.called "s.InternalError" || p.called "s.TooManyRequests")
     else p.called "s.InternalError" || p.called "s.TooManyRequests") &&
    (if p.called "s.TooManyRequests" then !p.called "login.SetCookie" && !p.called "http.Redirect" else true) &&
    (if p.took "prompt != \"\"" true && p.called "s.applyLoginRateLimit" then (p.calls "cookie.Clear") = [["w", "cookie.Session", "s.GetCookieOptions(r)"]] else !p.called "cookie.Clear" || p.called "s.InternalError")) = true := by decide +kernel

/-- **login rate limit** (C17): counted only when enabled and the browser has a session; at the limit → error and NO counter cookie; below it the counter is incremented by one and
    written with the request's cookie options and a Max-Age of at least one second (F8) — the window restarts with every counted attempt -/
theorem rate_limit_paths : (paths applyLoginRateLimit).all (fun p =>
    if p.called "cookie.Set" then
      p.took "!s.Config.RateLimit.Enabled" false && p.took "sess == nil" false && p.took "attempts >= maxAttempts" false &&
      p.evs.contains (.assign "attempts" "attempts + 1") && p.evs.contains (.call ["c"] "cookie.Make" ["cookie.LoginCount", "strconv.Itoa(attempts)", "opts"] []) &&
      p.evs.contains (.call ["c.MaxAge"] "max" ["1", "int(window.Seconds())"] []) && p.evs.contains (.call ["opts"] "s.GetCookieOptions" ["r"] []) &&
      p.evs.getLast? = some (.ret [.nil]) && p.evs.contains (.assign "maxAttempts" "s.Config.RateLimit.Logins") && p.evs.contains (.assign "window" "s.Config.RateLimit.Window")
    else if p.took "attempts >= maxAttempts" true then p.evs.getLast? = some (.ret [.wrap []])
    else p.evs.getLast? = some (.ret [.nil]) && (p.took "!s.Config.RateLimit.Enabled" true || p.took "sess == nil" true)) = true := by decide +kernel

/-- **error responder** (C17): the retry counter is incremented first on EVERY path; the automatic retry (307 to the retry target) is sent only while the counter the request carried is
    absent or below the maximum AND the status is not 429; otherwise the terminal error page -/
theorem respond_error_paths : (paths respondError).all (fun p =>
    p.before "incrementRetryAttempt" "getRetryAttempts" && p.calls "getRetryAttempts" = [["r"]] && p.calls "incrementRetryAttempt" = [["w", "r", "s.GetCookieOptions(r)"]] &&
    (if p.took "(!ok || attempts < MaxAutoRetryAttempts) && (statusCode != http.StatusTooManyRequests)" true then
       p.calls "http.Redirect" = [["w", "r", "retryUri", "http.StatusTemporaryRedirect"]] && p.evs.contains (.call ["retryUri"] "s.Retry" ["r", "loginCookie"] []) &&
       !p.called "s.defaultErrorResponse" && p.returned
     else p.calls "s.defaultErrorResponse" = [["w", "r", "statusCode"]] && !p.called "http.Redirect")) = true := by decide +kernel

/-- **retry target** (C04 C15): a failed logout callback retries the ingress' logout, a failed login callback the ingress' login with the canonical redirect or the CLEANED referer of
    the login cookie; anything else retries the request itself with scheme and host removed -/
theorem retry_target_paths : (paths retryURI).map (fun p => (p.conds.filter (·.2) |>.map (·.1), p.evs.getLast?)) =
    [(["strings.HasSuffix(requestPath, paths.OAuth2+paths.LogoutCallback)"], some (.ret [.expr "ingressPath + paths.OAuth2 + paths.Logout"])),
     (["strings.HasSuffix(requestPath, paths.OAuth2+paths.LoginCallback)", "loginCookie != nil && len(loginCookie.Referer) > 0"], some (.ret [.expr "urlpkg.LoginRelative(ingressPath, redirect)"])),
     (["strings.HasSuffix(requestPath, paths.OAuth2+paths.LoginCallback)"], some (.ret [.expr "urlpkg.LoginRelative(ingressPath, redirect)"])),
     ([], some (.ret [.expr "u.String()"]))] ∧
    (paths retryURI).all (fun p =>
      (if p.took "loginCookie != nil && len(loginCookie.Referer) > 0" true then p.evs.contains (.call ["redirect"] "s.Redirect.Clean" ["r", "loginCookie.Referer"] []) else true) &&
      (if p.took "strings.HasSuffix(requestPath, paths.OAuth2+paths.LoginCallback)" true then p.evs.contains (.call ["redirect"] "s.Redirect.Canonical" ["r"] []) else true) &&
      (if p.evs.getLast? = some (.ret [.expr "u.String()"]) then
         p.evs.contains (.assign "u" "*r.URL") && p.evs.contains (.assign "u.Host" "\"\"") && p.evs.contains (.assign "u.Scheme" "\"\"") else true)) = true := ⟨rfl, by decide +kernel⟩

end Ww.Proofs.GenTie.Login
