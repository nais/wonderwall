import Ww.Model.HandlerSrc
import Ww.Gen.Helpers
/-!
# Token-request parameters, login / logout cookie readers, random source (tie G for C02 C07 C13)

Regenerated statement by statement from pkg/openid/oauth2.go, pkg/openid/cookies.go and pkg/strings/generator.go on every run.
-/
namespace Ww.Proofs.GenTie.HelpersAuth
open Ww.Model.HandlerSrc Ww.Gen.Helpers Ww.Gen.Manager

private def lastRet (p : Path) : Option (List MgVal) := match p.evs.getLast? with
  | some (.ret v) => some v
  | _ => none

/-- **what a token request carries**: a code exchange = client id, the code, the PKCE verifier, grant type `authorization_code`, the redirect URI — all from the
    function's arguments, a fresh map per call; a refresh = client id, grant type `refresh_token`, the refresh token; client authentication = secret or signed
    assertion. `With` copies the OTHER map's entries into the receiver and returns the receiver (so it must only ever be applied to a map made for this request). -/
theorem request_params_shapes :
    exchangeParams = [.ret [.expr "RequestParams{ \"client_id\": clientID, \"code\": code, \"code_verifier\": codeVerifier, \"grant_type\": \"authorization_code\", \"redirect_uri\": redirectURI, }"]] ∧
    refreshGrantParams = [.ret [.expr "RequestParams{ \"client_id\": clientID, \"grant_type\": \"refresh_token\", \"refresh_token\": refreshToken, }"]] ∧
    clientAuthSecretParams = [.ret [.expr "RequestParams{ \"client_secret\": clientSecret, }"]] ∧
    clientAuthJwtBearerParams = [.ret [.expr "RequestParams{ \"client_assertion\": clientAssertion, \"client_assertion_type\": \"urn:ietf:params:oauth:client-assertion-type:jwt-bearer\", }"]] ∧
    paramsWith = [.loopBegin "key, val := range other", .assign "a[key]" "val", .loopEnd, .ret [.expr "a"]] ∧
    paramsAuthCodeOptions = [.call ["opts"] "make" ["[]oauth2.AuthCodeOption", "0", "len(a)"] [], .loopBegin "key, val := range a",
      .call ["opts"] "append" ["opts", "oauth2.SetAuthURLParam(key, val)"] [], .loopEnd, .ret [.expr "opts"]] ∧
    paramsURLValues = [.assign "v" "url.Values{}", .loopBegin "key, val := range a", .call [] "v.Set" ["key", "val"] [], .loopEnd, .ret [.expr "v"]] := ⟨rfl, rfl, rfl, rfl, rfl, rfl, rfl⟩

/-- **the login / logout cookie is read under its own name with the deployment crypter**; not present / not opening ⇒ that error; not parsing ⇒ error; a cookie
    object exists only after both succeeded -/
theorem login_cookie_paths :
    (paths getLoginCookie).map (fun p => (p.conds.map (·.2), lastRet p)) =
      [([true], some [.nil, .expr "err"]), ([false, true], some [.nil, .wrap ["err"]]), ([false, false], some [.expr "&loginCookie", .nil])] ∧
    getLoginCookie.head? = some (.call ["loginCookieJson", "err"] "cookie.GetDecrypted" ["r", "cookie.Login", "crypter"] []) ∧
    getLoginCookie.contains (.call ["err"] "json.Unmarshal" ["[]byte(loginCookieJson)", "&loginCookie"] []) = true ∧
    (paths getLogoutCookie).map (fun p => (p.conds.map (·.2), lastRet p)) =
      [([true], some [.nil, .expr "err"]), ([false, true], some [.nil, .wrap ["err"]]), ([false, false], some [.expr "&logoutCookie", .nil])] ∧
    getLogoutCookie.head? = some (.call ["logoutCookieJson", "err"] "cookie.GetDecrypted" ["r", "cookie.Logout", "crypter"] []) ∧
    getLogoutCookie.contains (.call ["err"] "json.Unmarshal" ["[]byte(logoutCookieJson)", "&logoutCookie"] []) = true := ⟨rfl, rfl, by decide +kernel, rfl, rfl, by decide +kernel⟩

/-- **state, nonce, verifier and logout state come from the system's random source**: `Generate` fills the whole buffer from `rand.Reader` - and `rand` in that file is crypto/rand,
    math/rand is not imported -, a short read is an error; `GenerateBase64` encodes exactly those bytes -/
theorem random_source :
    (paths generateBytes).map (fun p => (p.conds, lastRet p)) =
      [([("err != nil", true)], some [.nil, .wrap ["err"]]), ([("err != nil", false)], some [.expr "bytes", .nil])] ∧
    generateBytes.take 2 = [.call ["bytes"] "make" ["[]byte", "length"] [], .call ["_", "err"] "io.ReadFull" ["rand.Reader", "bytes"] []] ∧
    (paths generateBase64).map (fun p => (p.conds, lastRet p)) =
      [([("err != nil", true)], some [.expr "\"\"", .expr "err"]), ([("err != nil", false)], some [.expr "base64.RawURLEncoding.EncodeToString(bytes)", .nil])] ∧
    generateBase64.head? = some (.call ["bytes", "err"] "Generate" ["length"] []) ∧
    generatorImports.contains "crypto/rand" = true ∧ generatorImports.all (fun i => i != "math/rand" && i != "math/rand/v2" && i != "rand=math/rand" && i != "rand=math/rand/v2") = true := ⟨rfl, rfl, rfl, rfl, by decide +kernel, by decide +kernel⟩

end Ww.Proofs.GenTie.HelpersAuth
