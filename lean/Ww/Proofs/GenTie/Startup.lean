import Ww.Model.HandlerSrc
import Ww.Gen.Startup
/-!
# Start-up of the source (tie G for C20)

`run()`, the mode constructors and every configuration validation, regenerated statement by statement on every run from cmd/wonderwall/main.go, pkg/config/*.go,
pkg/openid/config/*.go, pkg/ingress/ingress.go, pkg/session/store.go and the handler constructors. `Ww.Model.Config.startOk` is a conjunction of checks; the
statements below decide, on every control-flow path of the current source, that each of those checks is made, that a failing check is an exit with an error, and that
the listening socket (`server.Start`) is reached on one path only: after all of them.
-/
namespace Ww.Proofs.GenTie.Startup
open Ww.Model.HandlerSrc Ww.Gen.Startup Ww.Gen.Manager

private def lastRet (p : Path) : Option (List MgVal) := match p.evs.getLast? with
  | some (.ret v) => some v
  | _ => none

private def isErrExit (p : Path) : Bool := match lastRet p with
  | some [.expr "err"] | some [.wrap _] | some [.nil, .expr "err"] | some [.nil, .wrap _] => true
  | _ => false

/-- **nothing listens before everything was checked**: `server.Start` is the LAST statement of the paths that reach it, and such a path has initialised (= validated)
    the configuration, obtained the key, built the source of its mode and taken the success branch of every one of those steps; every other path of `run` returns an error -/
theorem run_listens_last : (paths mainRun).all (fun p =>
    if lastRet p = some [.expr "server.Start(cfg, r)"] then
      p.calls "config.Initialize" = [[]] && p.calls "crypto.EncryptionKeyOrGenerate" = [["cfg"]] && p.calls "crypto.NewCrypter" = [["key"]] &&
      p.before "config.Initialize" "crypto.EncryptionKeyOrGenerate" && p.before "crypto.EncryptionKeyOrGenerate" "router.New" &&
      p.conds.take 2 = [("err != nil", false), ("err != nil", false)] && p.conds.getLast? = some ("err != nil", false) &&
      ((p.called "standalone" && p.took "cfg.SSO.Enabled" false && p.before "standalone" "router.New") ||
       (p.called "ssoServer" && p.took "cfg.SSO.Enabled" true && p.took "case cfg.SSO.Mode == config.SSOModeServer" true && p.before "ssoServer" "router.New") ||
       (p.called "ssoProxy" && p.took "cfg.SSO.Enabled" true && p.took "case cfg.SSO.Mode == config.SSOModeProxy" true && p.before "ssoProxy" "router.New")) &&
      p.calls "router.New" = [["src", "cfg"]]
    else isErrExit p) = true ∧
    (paths mainRun).any (fun p => lastRet p = some [.expr "server.Start(cfg, r)"]) = true ∧
    (mainRun.filter fun st => match st with | .ret [.expr "server.Start(cfg, r)"] => true | _ => false).length = 1 := by decide +kernel

/-- `config.Initialize` ends with: validate, and hand the configuration out only when that returned no error -/
theorem initialize_validates_last :
    configInitialize.reverse.take 5 = [.ret [.expr "cfg", .nil], .ifEnd, .ret [.nil, .wrap ["err"]], .ifBegin "err != nil", .call ["err"] "cfg.Validate" [] []] ∧
    (configInitialize.filter fun st => match st with | .ret (.expr "cfg" :: _) => true | _ => false).length = 1 := ⟨rfl, rfl⟩

/-- **the validation chain**: cookie, openid, sso, upstream, shutdown periods - in this order, each failure an exit with that error, success only after all five -/
theorem config_validate_chain :
    (paths configValidate).map (fun p => (p.conds.map (·.2), lastRet p)) =
      [([true], some [.expr "err"]), ([false, true], some [.expr "err"]), ([false, false, true], some [.expr "err"]), ([false, false, false, true], some [.expr "err"]),
       ([false, false, false, false, true], some [.wrap []]), ([false, false, false, false, false], some [.nil])] ∧
    (configValidate.filterMap fun st => match st with | .call _ fn args _ => some (fn, args) | _ => none) =
      [("c.Cookie.Validate", ["c"]), ("c.OpenID.Validate", []), ("c.SSO.Validate", ["c"]), ("c.validateUpstream", [])] ∧
    configValidate.contains (.ifBegin "c.ShutdownGracefulPeriod <= c.ShutdownWaitBeforePeriod") = true := ⟨rfl, rfl, by decide +kernel⟩

/-- upstream: neither part ⇒ fine; exactly one part ⇒ error; port outside 1..65535 ⇒ error -/
theorem upstream_paths :
    (paths validateUpstream).map (fun p => (p.conds, lastRet p)) =
      [([("c.UpstreamIP == \"\" && c.UpstreamPort == 0", true)], some [.nil]),
       ([("c.UpstreamIP == \"\" && c.UpstreamPort == 0", false), ("c.UpstreamIP == \"\"", true)], some [.wrap []]),
       ([("c.UpstreamIP == \"\" && c.UpstreamPort == 0", false), ("c.UpstreamIP == \"\"", false), ("c.UpstreamPort == 0", true)], some [.wrap []]),
       ([("c.UpstreamIP == \"\" && c.UpstreamPort == 0", false), ("c.UpstreamIP == \"\"", false), ("c.UpstreamPort == 0", false),
         ("c.UpstreamPort < 1 || c.UpstreamPort > 65535", true)], some [.wrap []]),
       ([("c.UpstreamIP == \"\" && c.UpstreamPort == 0", false), ("c.UpstreamIP == \"\"", false), ("c.UpstreamPort == 0", false),
         ("c.UpstreamPort < 1 || c.UpstreamPort > 65535", false)], some [.nil])] := rfl

/-- **insecure cookies only for plain-http localhost**: with `secure` off, every ingress is parsed inside the loop and an unparsable one, a hostname other than
    localhost or a scheme other than http is an exit with an error FROM INSIDE the loop (so: for each ingress); SameSite is checked first -/
theorem cookie_validate_paths :
    (paths cookieCfgValidate).map (fun p => (p.conds, lastRet p)) =
      [([("err != nil", true)], some [.expr "err"]),
       ([("err != nil", false), ("c.Secure", true)], some [.nil]),
       ([("err != nil", false), ("c.Secure", false), ("err != nil", true)], some [.wrap ["err"]]),
       ([("err != nil", false), ("c.Secure", false), ("err != nil", false), ("!strings.EqualFold(u.Hostname(), \"localhost\")", true)], some [.wrap []]),
       ([("err != nil", false), ("c.Secure", false), ("err != nil", false), ("!strings.EqualFold(u.Hostname(), \"localhost\")", false), ("u.Scheme != \"http\"", true)], some [.wrap []]),
       ([("err != nil", false), ("c.Secure", false), ("err != nil", false), ("!strings.EqualFold(u.Hostname(), \"localhost\")", false), ("u.Scheme != \"http\"", false)], some [.nil])] ∧
    cookieCfgValidate.head? = some (.call ["err"] "c.SameSite.Validate" [] []) ∧
    ((cookieCfgValidate.dropWhile (· != .loopBegin "_, ingress := range cfg.Ingresses")).takeWhile (· != .loopEnd)).filter (fun st => match st with | .ret _ => true | .call .. => true | _ => false) =
      [.call ["u", "err"] "url.ParseRequestURI" ["ingress"] [], .ret [.wrap ["err"]], .ret [.wrap []], .ret [.wrap []]] ∧
    (paths sameSiteValidate).map (fun p => (p.conds, lastRet p)) =
      [([("slices.Contains(all, s)", true)], some [.nil]), ([("slices.Contains(all, s)", false)], some [.wrap []])] ∧
    sameSiteValidate.head? = some (.assign "all" "[]SameSite{ SameSiteLax, SameSiteNone, SameSiteStrict, }") := ⟨rfl, rfl, rfl, rfl, rfl⟩

/-- **SSO needs a shared store, a cookie name and its mode's settings**; an unknown mode is an error -/
theorem sso_validate_paths : (paths ssoValidate).all (fun p =>
    if lastRet p = some [.nil] then
      p.conds = [("!s.Enabled", true)] ||
      p.conds = [("!s.Enabled", false), ("len(c.Redis.Address) == 0 && len(c.Redis.URI) == 0", false), ("len(s.SessionCookieName) == 0", false),
                 ("case s.Mode == SSOModeProxy", true), ("err != nil", false)] && p.calls "url.ParseRequestURI" = [["s.ServerURL"]] ||
      p.conds = [("!s.Enabled", false), ("len(c.Redis.Address) == 0 && len(c.Redis.URI) == 0", false), ("len(s.SessionCookieName) == 0", false),
                 ("case s.Mode == SSOModeProxy", false), ("case s.Mode == SSOModeServer", true), ("len(s.Domain) == 0", false), ("err != nil", false)] &&
        p.calls "url.ParseRequestURI" = [["s.ServerDefaultRedirectURL"]]
    else isErrExit p && p.conds.getLast?.any (fun c => c.2 || c.1 = "case s.Mode == SSOModeServer")) = true ∧
    ((paths ssoValidate).filter fun p => lastRet p = some [.nil]).length = 3 := by decide +kernel

/-- the signing algorithm must be a JWA signature algorithm -/
theorem openid_validate_paths :
    (paths openidCfgValidate).map (fun p => (p.conds, lastRet p)) =
      [([("!slices.Contains(valid, jwa.SignatureAlgorithm(in.IDTokenSigningAlg))", true)], some [.wrap []]),
       ([("!slices.Contains(valid, jwa.SignatureAlgorithm(in.IDTokenSigningAlg))", false)], some [.nil])] ∧
    openidCfgValidate.head? = some (.call ["valid"] "jwa.SignatureAlgorithms" [] []) := ⟨rfl, rfl⟩

/-- **the discovery document must support the configured level, locale and algorithm** (the level also through the ID-porten legacy mapping) -/
theorem provider_validate_paths :
    (paths providerValidate).map (fun p => (p.conds.map (·.2), lastRet p)) =
      [([true], some [.expr "err"]), ([false, true], some [.expr "err"]), ([false, false, true], some [.expr "err"]), ([false, false, false], some [.nil])] ∧
    (providerValidate.filterMap fun st => match st with | .call _ fn args _ => some (fn, args) | _ => none) =
      [("c.validateAcrValues", ["cfg.ACRValues"]), ("c.validateLocaleValues", ["cfg.UILocales"]), ("c.validateIDTokenSigningAlg", ["cfg.IDTokenSigningAlg"])] ∧
    (paths providerValidateAcr).map (fun p => (p.conds, lastRet p)) =
      [([("len(acrValue) == 0 || c.ACRValuesSupported.Contains(acrValue)", true)], some [.nil]),
       ([("len(acrValue) == 0 || c.ACRValuesSupported.Contains(acrValue)", false), ("ok && c.ACRValuesSupported.Contains(translatedAcr)", true)], some [.nil]),
       ([("len(acrValue) == 0 || c.ACRValuesSupported.Contains(acrValue)", false), ("ok && c.ACRValuesSupported.Contains(translatedAcr)", false)], some [.wrap []])] ∧
    providerValidateAcr.contains (.other "translatedAcr, ok := acr.IDPortenLegacyMapping[acrValue]") = true ∧
    (paths providerValidateLocale).map (fun p => (p.conds, lastRet p)) =
      [([("len(locale) == 0 || c.UILocalesSupported.Contains(locale)", true)], some [.nil]),
       ([("len(locale) == 0 || c.UILocalesSupported.Contains(locale)", false)], some [.wrap []])] ∧
    providerValidateAlg = [.loopBegin "_, alg := range c.IDTokenSigningAlgValuesSupported", .ifBegin "alg == algorithm", .ret [.nil], .ifEnd, .loopEnd, .ret [.wrap []]] := ⟨rfl, rfl, rfl, by decide +kernel, rfl, rfl⟩

/-- the provider configuration exists only after discovery was fetched, decoded and VALIDATED against the configured openid settings -/
theorem provider_config_paths : (paths newProviderConfig).all (fun p =>
    match lastRet p with
    | some [.nil, .wrap ["err"]] => p.conds.getLast? = some ("err != nil", true)
    | some [.expr _, .nil] =>
      p.conds.map (·.2) = [false, false, false, false] && p.calls "http.Get" = [["cfg.OpenID.WellKnownURL"]] && p.calls "providerCfg.Validate" = [["cfg.OpenID"]] &&
      p.before "http.Get" "json.NewDecoder(response.Body).Decode" && p.before "json.NewDecoder(response.Body).Decode" "providerCfg.Validate"
    | _ => false) = true ∧
    (paths newOpenidConfig).map (fun p => (p.conds.map (·.2), lastRet p)) =
      [([true], some [.nil, .expr "err"]), ([false, true], some [.nil, .expr "err"]),
       ([false, false], some [.expr "&openidconfig{ clientConfig: clientCfg, providerConfig: providerCfg, }", .nil])] ∧
    (newOpenidConfig.filterMap fun st => match st with | .call _ fn args _ => some (fn, args) | _ => none) = [("NewClientConfig", ["cfg"]), ("NewProviderConfig", ["cfg"])] := ⟨by decide +kernel, rfl, rfl⟩

/-- **client id, credentials and discovery URL must be present**: a client configuration exists only with a JWK or a secret (a JWK must parse), a known provider,
    a non-empty client id and a non-empty well-known URL -/
theorem client_config_paths : (paths newClientConfig).all (fun p =>
    match lastRet p with
    | some [.expr "clientConfig", .nil] =>
      p.took "len(cfg.OpenID.ClientJWK) == 0 && len(cfg.OpenID.ClientSecret) == 0" false &&
      p.took "len(clientConfig.ClientID()) == 0" false && p.took "len(clientConfig.WellKnownURL()) == 0" false &&
      !p.took "case cfg.OpenID.Provider == \"\"" true &&
      (if p.took "len(cfg.OpenID.ClientJWK) > 0" true then p.calls "jwk.ParseKey" = [["[]byte(cfg.OpenID.ClientJWK)"]] && p.took "err != nil" false &&
          p.evs.contains (.assign "c.authMethod" "AuthMethodPrivateKeyJWT") else !p.called "jwk.ParseKey")
    | some [.nil, .wrap _] => p.conds.getLast?.any (·.2)
    | _ => false) = true ∧
    (paths newClientConfig).any (fun p => lastRet p = some [.expr "clientConfig", .nil]) = true := by decide +kernel

/-- **at least one ingress, every one of them valid**: no ingress ⇒ error; each is parsed inside the loop and a failure is an exit from inside the loop -/
theorem parse_ingresses_paths : (paths parseIngresses).all (fun p =>
    match lastRet p with
    | some [.nil, .wrap []] => p.conds = [("len(ingresses) == 0", true)]
    | some [.nil, .wrap ["err"]] => p.conds = [("len(ingresses) == 0", false), ("err != nil", true)]
    | some [.expr _, .nil] => p.took "len(ingresses) == 0" false && p.took "err != nil" false && p.calls "ParseIngress" = [["raw"]]
    | _ => false) = true ∧
    parseIngresses.head? = some (.assign "ingresses" "cfg.Ingresses") ∧
    ((parseIngresses.dropWhile (· != .loopBegin "_, raw := range ingresses")).takeWhile (· != .loopEnd)).take 4 =
      [.loopBegin "_, raw := range ingresses", .call ["ingress", "err"] "ParseIngress" ["raw"] [], .ifBegin "err != nil", .ret [.nil, .wrap ["err"]]] := ⟨by decide +kernel, rfl, rfl⟩

/-- **a configured store must answer before the process serves**: without Redis settings the in-memory store; otherwise the client must be built and a PING must succeed -/
theorem new_store_paths : (paths newStore).all (fun p =>
    match lastRet p with
    | some [.expr "NewMemory()", .nil] => p.conds = [("len(cfg.Redis.Address) == 0 && len(cfg.Redis.URI) == 0", true)]
    | some [.expr "NewRedis(redisClient)", .nil] =>
      p.took "len(cfg.Redis.Address) == 0 && len(cfg.Redis.URI) == 0" false && p.calls "cfg.Redis.Client" = [[]] && p.calls "redisClient.Ping(ctx).Err" = [[]] &&
      p.before "cfg.Redis.Client" "redisClient.Ping(ctx).Err" && !p.took "err != nil" true
    | some [.nil, .wrap ["err"]] => p.conds.getLast? = some ("err != nil", true)
    | _ => false) = true ∧
    newManager.head? = some (.call ["store", "err"] "NewStore" ["cfg"] []) ∧ newReader.head? = some (.call ["store", "err"] "NewStore" ["cfg"] []) ∧
    (paths newManager).map (fun p => (p.conds, (lastRet p).map (·.length))) = [([("err != nil", true)], some 2), ([("err != nil", false)], some 2)] := ⟨by decide +kernel, rfl, rfl, rfl⟩

/-- the mode constructors: every step's failure is the constructor's failure -/
theorem constructors_fail_closed :
    (paths mainStandalone).all (fun p => match lastRet p with
      | some [.expr "handler.NewStandalone(cfg, jwksProvider, openidConfig, crypt)"] =>
        p.conds.map (·.2) = [false, false] && p.before "openidconfig.NewConfig" "provider.NewJwksProvider"
      | some [.nil, .expr "err"] => true
      | _ => false) = true ∧
    (paths newStandalone).all (fun p => match lastRet p with
      | some [.expr _, .nil] => p.conds.map (·.2) = [false, false, false] && p.calls "session.NewManager" = [["cfg", "openidConfig", "crypter", "openidClient"]] &&
          p.calls "ingress.ParseIngresses" = [["cfg"]] && p.calls "autologin.New" = [["cfg"]]
      | some [.nil, .expr "err"] => true
      | _ => false) = true ∧
    (paths newSSOProxy).all (fun p => match lastRet p with
      | some [.expr _, .nil] => p.conds.map (·.2) = [false, false, false, false] && p.calls "session.NewReader" = [["cfg", "crypter"]] &&
          p.calls "ingress.ParseIngresses" = [["cfg"]] && p.calls "urllib.ParseRequestURI" = [["cfg.SSO.ServerURL"]]
      | some [.nil, .expr "err"] | some [.nil, .wrap ["err"]] => true
      | _ => false) = true ∧
    (paths newSSOServer).all (fun p => match lastRet p with
      | some [.expr "&SSOServer{Standalone: handler}", .nil] => p.conds = [("err != nil", false)] && p.calls "url.NewSSOServerRedirect" = [["cfg"]]
      | some [.nil, .expr "err"] => true
      | _ => false) = true ∧
    (paths mainSsoServer).map (fun p => (p.conds, lastRet p)) =
      [([("err != nil", true)], some [.nil, .expr "err"]), ([("err != nil", false)], some [.expr "handler.NewSSOServer(cfg, h)"])] ∧
    mainSsoProxy = [.ret [.expr "handler.NewSSOProxy(cfg, crypt)"]] := ⟨by decide +kernel, by decide +kernel, by decide +kernel, by decide +kernel, rfl, rfl⟩

end Ww.Proofs.GenTie.Startup
