import Ww.Model.HandlerSrc
import Ww.Gen.Provider
/-!
# The logout helpers of the source (tie G for C04 C05 C14)

`NewLogout`, `Logout.SingleLogoutURL`, `Logout.SetCookie`, `LogoutCallback.PostLogoutRedirectURI` and the front-channel parameters, regenerated statement by
statement from pkg/openid/client/logout*.go on every run.
-/
namespace Ww.Proofs.GenTie.LogoutSrc
open Ww.Model.HandlerSrc Ww.Gen.Provider Ww.Gen.Manager

private def lastRet (p : Path) : Option (List MgVal) := match p.evs.getLast? with
  | some (.ret v) => some v
  | _ => none

/-- **where the logout callback sends the browser**: the cookie's redirect ONLY when there is a logout cookie, the request's state equals the cookie's and the
    validator accepts the stored redirect; otherwise the operator's post-logout URI when configured; otherwise the matching ingress; otherwise "/".
    Nothing from the request itself is ever the target. -/
theorem post_logout_redirect_paths :
    (paths postLogoutRedirectURI).map (fun p => (p.conds, lastRet p)) =
      [([("in.cookie != nil && in.stateMismatchError() == nil && in.validator.IsValidRedirect(in.request, in.cookie.RedirectTo)", true)], some [.expr "in.cookie.RedirectTo"]),
       ([("in.cookie != nil && in.stateMismatchError() == nil && in.validator.IsValidRedirect(in.request, in.cookie.RedirectTo)", false), ("defaultRedirect != \"\"", true)],
        some [.expr "defaultRedirect"]),
       ([("in.cookie != nil && in.stateMismatchError() == nil && in.validator.IsValidRedirect(in.request, in.cookie.RedirectTo)", false), ("defaultRedirect != \"\"", false),
         ("err != nil", true)], some [.expr "\"/\""]),
       ([("in.cookie != nil && in.stateMismatchError() == nil && in.validator.IsValidRedirect(in.request, in.cookie.RedirectTo)", false), ("defaultRedirect != \"\"", false),
         ("err != nil", false)], some [.expr "ingress.String()"])] ∧
    postLogoutRedirectURI.contains (.call ["defaultRedirect"] "in.cfg.Client().PostLogoutRedirectURI" [] []) = true ∧
    postLogoutRedirectURI.contains (.call ["ingress", "err"] "urlpkg.MatchingIngress" ["in.request"] []) = true ∧
    (paths logoutStateMismatchError).map (fun p => (p.conds, lastRet p)) =
      [([("in.cookie == nil", true)], some [.wrap []]),
       ([("in.cookie == nil", false)], some [.expr "openid.StateMismatchError(in.request.URL.Query(), in.cookie.State)"])] ∧
    newLogoutCallback = [.ret [.expr "&LogoutCallback{ Client: c, cookie: cookie, validator: validator, request: r, }"]] := ⟨rfl, by decide +kernel, by decide +kernel, rfl, rfl⟩

/-- **the end-session URL**: the provider's end-session endpoint with `post_logout_redirect_uri` = this deployment's logout-callback URL and `state` = the fresh
    random state kept in the logout cookie; `id_token_hint` only when there is an ID token. The logout cookie (state + canonical redirect) goes out sealed under
    the logout cookie's name. -/
theorem single_logout_url_shape :
    (paths singleLogoutURL).all (fun p =>
      lastRet p = some [.expr "endSessionEndpoint.String()"] &&
      p.evs.head? = some (.call ["endSessionEndpoint"] "in.cfg.Provider().EndSessionEndpointURL" [] []) &&
      p.calls "v.Set" = [["\"post_logout_redirect_uri\"", "in.logoutCallbackURL"], ["\"state\"", "in.Cookie.State"]] ++
        (if p.took "len(idToken) > 0" true then [["\"id_token_hint\"", "idToken"]] else []) &&
      p.evs.contains (.call ["endSessionEndpoint.RawQuery"] "v.Encode" [] [])) = true ∧
    (paths newLogout).all (fun p => match lastRet p with
      | some [.expr "&Logout{ Client: c, Cookie: logoutCookie, logoutCallbackURL: logoutCallbackURL, }", .nil] =>
        p.calls "urlpkg.LogoutCallback" = [["r"]] && p.calls "strings.GenerateBase64" = [["32"]] && p.evs.contains (.assign "logoutCookie" "&openid.LogoutCookie{ State: state, }") &&
        p.conds.map (·.2) = [false, false]
      | some [.nil, .wrap ["err"]] => true
      | _ => false) = true ∧
    (paths logoutSetCookie).map (fun p => (p.conds, lastRet p)) =
      [([("err != nil", true)], some [.wrap ["err"]]), ([("err != nil", false)], some [.expr "cookie.EncryptAndSet(w, cookie.Logout, value, opts, crypter)"])] ∧
    logoutSetCookie.head? = some (.assign "in.Cookie.RedirectTo" "canonicalRedirect") := ⟨by decide +kernel, by decide +kernel, rfl, rfl⟩

/-- front-channel logout: the session is named by the request's `sid` parameter alone; "missing" means empty -/
theorem frontchannel_sid :
    newLogoutFrontchannel = [.call ["params"] "r.URL.Query" [] [], .call ["sid"] "params.Get" ["\"sid\""] [], .ret [.expr "&LogoutFrontchannel{ sid: sid, }"]] ∧
    frontchannelSid = [.ret [.expr "l.sid"]] ∧ frontchannelMissingSid = [.ret [.expr "len(l.sid) <= 0"]] := ⟨rfl, rfl, rfl⟩

end Ww.Proofs.GenTie.LogoutSrc
