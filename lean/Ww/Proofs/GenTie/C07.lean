import Ww.Model.ManagerSrc
import Ww.Model.Sched
/-!
# The interleaving model's refresh / create programs ARE the source's (tie G for C05 C07 C08 C10 C11)

Every statement below but `sched_follows_source` is about `Ww.Gen.Manager.*`, regenerated from pkg/session/*.go on each run, and is evaluated by the kernel:
a change of the order lock → re-read → re-check → grant → write-back, of what is presented to the provider, of the lock around session creation,
of the store commands behind Update / Write / Delete, or of the error classes, makes one of them fail.
-/
namespace Ww.Proofs.GenTie.C07
open Ww.Model.ManagerSrc Ww.Gen.Manager Ww.Model.Sched

private def crit : Flags := { held := true, deferred := true, fresh := true, guarded := true, granted := false }

/-- **Refresh, in source order**: nothing-to-do exit; lock; re-read of THIS ticket under the lock; re-check on the re-read value; ONE grant that presents the
    re-read session's refresh token (retried only on a provider 5xx) with lock held, release deferred, value re-read and re-checked; write-back of that
    same `sess` under the lock after the grant. No other store / provider effect. -/
theorem refresh_effects : effects refresh =
    [.guardCan, .acquire {}, .reread "sess.ticket" { held := true, deferred := true }, .guardCan,
     .grant "sess.data.RefreshToken" false ["openidclient.ErrOpenIDServer"] [] crit,
     .managerCall "in.update" ["ctx", "sess"] { crit with granted := true }] := by decide +kernel

/-- the lock is the one made for the session's own key, and every exit taken while it is held is covered by the deferred release (C10: no lock leak) -/
theorem refresh_lock_key_and_release : (events refresh).contains (.makeLock "sess.ticket.Key()") = true ∧ noLeak refresh = true ∧ noUnknown refresh = true := by decide +kernel

/-- what is written back is what the provider just issued, with the metadata advanced -/
theorem refresh_writes_granted_tokens : (events refresh).filter (fun e => match e with | .setTokens .. | .metaCall .. => true | _ => false) =
    [.setTokens "sess.data.AccessToken" "resp.AccessToken", .setTokens "sess.data.RefreshToken" "resp.RefreshToken",
     .metaCall "sess.data.Metadata.Refresh" ["resp.ExpiresIn"], .metaCall "sess.data.Metadata.WithTimeout" ["in.cfg.Session.InactivityTimeout"]] := by decide +kernel

/-- a provider rejection (4xx) becomes ErrInvalidExternal, anything else a plain error; both leave under the lock with the release deferred (C11) -/
theorem refresh_error_classes :
    (events refresh).filter (fun e => match e with | .exit (.nil :: _) fl => fl.granted | _ => false) =
      [.exit [.nil, .wrap ["ErrInvalidExternal"]] { crit with granted := true }, .exit [.nil, .wrap ["err"]] { crit with granted := true },
       .exit [.nil, .expr "err"] { crit with granted := true }] := by decide +kernel

/-- **the model's program counters are the source's effects**: lock, reread, idp, update — in this order -/
theorem refresh_pcs : pcsOf (effects refresh) = [PC.lock, PC.reread, PC.idp, PC.update] := by decide +kernel

/-- … and `Ww.Model.Sched.step` walks exactly that path (then releases): from each of these pcs, when the step is enabled the way the source's guards say
    (lock free; entry readable and not on cooldown; token current at the provider; entry still present), the next pc is the next one of the source -/
theorem sched_follows_source (s : St) (p : Pid) (v : Sess) (hk : (s.procs p).kind = .refresh) :
    ((s.procs p).pc = .lock → s.lock = none → ((step s p).1.procs p).pc = .reread) ∧
    ((s.procs p).pc = .reread → mine s.sess = some v → v.fresh = false → ((step s p).1.procs p).pc = .idp ∧ ((step s p).1.procs p).rt = v.gen) ∧
    ((s.procs p).pc = .idp → (s.procs p).rt = s.idpCur → ((step s p).1.procs p).pc = .update) ∧
    ((s.procs p).pc = .update → ((step s p).1.procs p).pc = .unlock) ∧
    ((s.procs p).pc = .unlock → ((step s p).1.procs p).pc = .done ∧ (s.lock = some p → (step s p).1.lock = none)) := by
  refine ⟨?_, ?_, ?_, ?_, ?_⟩
  · intro h hl; unfold step; simp [h, hl, hk]
  · intro h hm hf; unfold step; simp [h, hm, hf]
  · intro h hr; unfold step; simp [h, hr]
  · intro h; unfold step; simp only [h]; split <;> simp
  · intro h; unfold step; simp [h]; intro hl; simp [hl]

/-- **Create** (fix 078aa22): the new session is written with the per-key lock held and its release deferred; no exit leaks the lock; the expiry handed to the store is
    what is LEFT of the session's lifetime at the moment of (each attempt of) the write — counted from creation, however long the lock wait or earlier attempts took -/
theorem create_writes_under_lock :
    effects create = [.acquire {}, .storeCall "in.store.Write" ["r.Context()", "key", "encrypted", "remaining"] true [] { held := true, deferred := true }] ∧
    create.contains (.assign "remaining" "time.Until(metadata.Session.EndsAt)") = true ∧
    create.contains (.call ["metadata"] "NewMetadata" ["tokenExpiresIn", "sessionLifetime"] []) = true ∧
    (events create).contains (.makeLock "key") = true ∧ noLeak create = true ∧ noUnknown create = true ∧ pcsOf (effects create) = [PC.lock, PC.write] := by decide +kernel

/-- the write-back is ONE store call, "update", retried on transient faults but not when the entry is gone -/
theorem update_is_one_store_update :
    effects update = [.storeCall "in.store.Update" ["ctx", "sess.ticket.Key()", "encrypted"] true ["ErrNotFound"] {}] ∧ noUnknown update = true := by decide +kernel

/-- … which on Redis is ONE command, `SET key value XX KEEPTTL` (never creates, never drops the expiry) — the atomic `.update` step of the model;
    Write is one `SET … EX`, Read one `GET`, Delete one `DEL` -/
theorem redis_commands :
    clientCommands redisUpdate = ["s.client.SetArgs(ctx, key, value, redis.SetArgs{Mode: \"XX\", KeepTTL: true})"] ∧
    clientCommands redisWrite = ["s.client.Set(ctx, key, value, expiration)"] ∧
    clientCommands redisRead = ["s.client.Get(ctx, key)"] ∧
    clientCommands redisDelete = ["s.client.Del(ctx, keys...)"] := ⟨rfl, rfl, rfl, rfl⟩

/-- a missing key is reported as ErrNotFound by every Redis store method that can meet one -/
theorem redis_not_found_class :
    redisUpdate.contains (.ret [.wrap ["ErrNotFound", "err"]]) = true ∧ redisDelete.contains (.ret [.wrap ["ErrNotFound", "err"]]) = true ∧
    redisRead.contains (.ret [.nil, .wrap ["ErrNotFound", "err"]]) = true := by decide +kernel

/-- the in-memory store's update is update-only-if-present too, inside its own critical section -/
theorem memory_update_only_if_present :
    memoryUpdate = [.call [] "s.lock.Lock" [] [], .deferCalls ["s.lock.Unlock"], .other "_, ok := s.sessions[key]", .ifBegin "!ok", .ret [.wrap ["ErrNotFound"]], .ifEnd,
      .assign "s.sessions[key]" "value", .ret [.nil]] := rfl

/-- reading: one store read (transient faults retried, absence not), then decrypt with the ticket's own key — failure is ErrInvalid —, then validate -/
theorem get_for_ticket_effects :
    events getForTicket = [.storeCall "in.store.Read" ["ctx", "ticket.Key()"] true ["ErrNotFound"] {}, .exit [.nil, .wrap ["err"]] {}, .exit [.nil, .wrap ["ErrInvalid", "err"]] {},
      .exit [.expr "sess", .expr "err"] {}, .exit [.expr "sess", .nil] {}] ∧
    getForTicket.contains (.call ["data", "err"] "encrypted.Decrypt" ["ticket.Crypter()"] []) = true ∧ getForTicket.contains (.call ["err"] "data.Validate" [] []) = true ∧
    -- the verdict of `Data.Validate` (ended / inactive / no token, see GenTie.C09.data_validate_paths) is handed on UNTOUCHED: nothing between the call and the return
    -- re-assigns or filters it, whatever the instance's own configuration says
    getForTicket.dropWhile (· != .call ["err"] "data.Validate" [] []) =
      [.call ["err"] "data.Validate" [] [], .ifBegin "err != nil", .ret [.expr "sess", .expr "err"], .ifEnd, .ret [.expr "sess", .nil]] ∧
    (getForTicket.filter fun st => match st with | .assign "err" _ => true | _ => false) = [] := ⟨by decide +kernel, by decide +kernel, by decide +kernel, rfl, rfl⟩

/-- automatic refresh: read; nothing due → the session as read; refresh succeeded → the REFRESHED session; provider rejection / invalid session → no session;
    any other failure → fall back to the session as read (whose token `Session.AccessToken` still refuses when expired — C01/C11) -/
theorem get_or_refresh_shape : getOrRefresh =
    [.call ["sess", "err"] "in.Get" ["r"] [], .ifBegin "err != nil", .ret [.nil, .wrap ["err"]], .ifEnd,
     .ifBegin "!sess.shouldRefresh()", .ret [.expr "sess", .nil], .ifEnd,
     .call ["refreshed", "err"] "in.Refresh" ["r", "sess"] [], .ifBegin "err == nil", .ret [.expr "refreshed", .nil], .ifEnd,
     .ifBegin "errors.Is(err, ErrInvalidExternal) || errors.Is(err, ErrInvalid)", .ret [.nil, .expr "err"], .ifEnd,
     .ifBegin "!errors.Is(err, context.Canceled)", .ifEnd, .ret [.expr "sess", .nil]] := rfl

/-- deleting: one store delete, transient faults retried, absence not; both public variants go through it with the session's key -/
theorem delete_effects :
    effects deleteForKey = [.storeCall "in.store.Delete" ["ctx", "key"] true ["ErrNotFound"] {}] ∧
    delete = [.ret [.expr "in.deleteForKey(ctx, session.key())"]] ∧
    deleteForExternalID = [.call ["key"] "in.key" ["id"] [], .ret [.expr "in.deleteForKey(ctx, key)"]] := ⟨by decide +kernel, rfl, rfl⟩

/-- lock acquisition polls `lock.Acquire(ctx, refreshLockDuration)` and gives up only on context end, time-out, or an error other than "held by someone else" -/
theorem acquire_lock_shape :
    acquireLock.contains (.call ["err"] "lock.Acquire" ["ctx", "refreshLockDuration"] []) = true ∧
    acquireLock.contains (.ifBegin "!errors.Is(err, ErrAcquireLock)") = true ∧ acquireLock.contains (.selectCase "<-timeout.C") = true ∧
    redisLockAcquire.contains (.call ["lock", "err"] "r.locker.Obtain" ["ctx", "lockKey(r.key)", "duration", "nil"] []) = true ∧
    redisLockRelease = [.ret [.expr "r.lock.Release(ctx)"]] := ⟨by decide +kernel, by decide +kernel, by decide +kernel, by decide +kernel, rfl⟩

end Ww.Proofs.GenTie.C07
