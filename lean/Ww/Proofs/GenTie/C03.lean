import Ww.Gen.Dec
import Ww.Model.Callback
/-!
# Tie G by proof: acr.Validate (pkg/openid/acr/acr.go) is the model's `acrAccepts`
-/
namespace Ww.Proofs.GenTie
open Ww.Model

/-- pkg/openid/acr/acr.go:Validate (nil ↦ true) = Model.acrAccepts (C03, C01) -/
theorem acrAccepts_is_source (e a : String) : acrAccepts e a = Ww.Gen.Dec.acrValidate e a := by
  unfold acrAccepts acrTranslate' Ww.Gen.Dec.acrValidate Ww.Gen.Consts.idportenLegacyLookup Ww.Gen.Consts.acrAcceptedLookup
  by_cases h3 : e = "Level3"
  · simp [h3]
  by_cases h4 : e = "Level4"
  · simp [h4]
  by_cases hs : e = "idporten-loa-substantial"
  · simp [hs]
  by_cases hh : e = "idporten-loa-high"
  · simp [hh]
  simp [h3, h4, hs, hh]

end Ww.Proofs.GenTie
