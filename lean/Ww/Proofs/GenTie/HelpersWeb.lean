import Ww.Model.HandlerSrc
import Ww.Gen.Helpers
/-!
# Callback URLs, retry counter, cookie names, small web helpers (tie G for C04 C13 C14 C15 C17)

Regenerated statement by statement from pkg/url/url.go, pkg/handler/{error,handler,path,handler_sso_proxy}.go, pkg/cookie/cookie.go and internal/http/middleware.go.
-/
namespace Ww.Proofs.GenTie.HelpersWeb
open Ww.Model.HandlerSrc Ww.Gen.Helpers Ww.Gen.Manager

private def lastRet (p : Path) : Option (List MgVal) := match p.evs.getLast? with
  | some (.ret v) => some v
  | _ => none

/-- **redirect_uri and post_logout_redirect_uri are built from the MATCHING INGRESS** (put into the request context by the ingress middleware), never from request
    text: no matching ingress ⇒ error; otherwise ingress + /oauth2 + the callback path -/
theorem callback_url_paths :
    urlLoginCallback = [.ret [.expr "makeCallbackURL(r, paths.LoginCallback)"]] ∧ urlLogoutCallback = [.ret [.expr "makeCallbackURL(r, paths.LogoutCallback)"]] ∧
    (paths makeCallbackURL).map (fun p => (p.conds, lastRet p)) =
      [([("err != nil", true)], some [.expr "\"\"", .expr "err"]), ([("err != nil", false)], some [.expr "u.JoinPath(paths.OAuth2, callbackPath).String()", .nil])] ∧
    makeCallbackURL.head? = some (.call ["u", "err"] "MatchingIngress" ["r"] []) ∧
    (paths urlMatchingIngress).map (fun p => (p.conds, lastRet p)) =
      [([("!found", true)], some [.nil, .expr "ErrNoMatchingIngress"]), ([("!found", false)], some [.expr "ing.NewURL()", .nil])] ∧
    urlMatchingIngress.head? = some (.call ["ing", "found"] "mw.IngressFrom" ["r.Context()"] []) ∧
    (paths urlMatchingPath).map (fun p => (p.conds, p.evs.filterMap fun st => match st with | .assign "u.Path" v => some v | _ => none)) =
      [([("found && len(p) > 0", true)], ["p"]), ([("found && len(p) > 0", false)], ["\"/\""])] ∧
    (paths urlLoginRelative).all (fun p => lastRet p = some [.expr "Login(u, redirect)"]) = true := ⟨rfl, rfl, rfl, rfl, rfl, rfl, rfl, by decide +kernel⟩

/-- **the retry counter**: read from the retry cookie; no cookie or not a number ⇒ "no attempts yet"; the error page hands `Retry` the login cookie (or none) and
    the default redirect = the single ingress, or the SSO server's default URL -/
theorem retry_attempts_paths :
    (paths getRetryAttempts).map (fun p => (p.conds.map (·.2), lastRet p)) =
      [([true], some [.expr "0", .expr "false"]), ([false, true], some [.expr "0", .expr "false"]), ([false, false], some [.expr "val", .expr "true"])] ∧
    getRetryAttempts.head? = some (.call ["c", "err"] "cookie.Get" ["r", "cookie.Retry"] []) ∧
    getRetryAttempts.contains (.call ["val", "err"] "strconv.Atoi" ["c.Value"] []) = true ∧
    defaultErrorResponse.head? = some (.call [] "w.WriteHeader" ["statusCode"] []) ∧
    (paths defaultErrorResponse).all (fun p =>
      p.calls "openid.GetLoginCookie" = [["r", "s.Crypter"]] &&
      (p.took "s.Config.SSO.IsServer()" true == p.evs.contains (.assign "defaultRedirect" "s.Config.SSO.ServerDefaultRedirectURL")) &&
      p.evs.contains (.call ["defaultRedirect"] "s.Ingresses.Single().String" [] [])) = true := ⟨rfl, rfl, by decide +kernel, rfl, by decide +kernel⟩

/-- cookie names: a prefix renames login, logout, retry and session cookie together; the legacy cookie is set and cleared with the same name, path "/" and SameSite Lax;
    the wildcard route is the upstream proxy; the SSO proxy strips the caching headers the middleware added; interactive endpoints refuse non-navigation requests
    (when fetch metadata is present) with 401 before the handler runs -/
theorem small_web_helpers :
    configureCookieNames = [.call ["Login"] "login" ["prefix"] [], .call ["Logout"] "logout" ["prefix"] [], .call ["Retry"] "retry" ["prefix"] [], .call ["Session"] "session" ["prefix"] []] ∧
    setLegacyCookie = [.call ["c"] "Make" ["loginservice", "value", "opts. WithSameSite(http.SameSiteLaxMode). WithPath(\"/\")"] [], .call [] "Set" ["w", "c"] []] ∧
    clearLegacyCookies = [.call [] "Clear" ["w", "loginservice", "opts. WithSameSite(http.SameSiteLaxMode). WithPath(\"/\")"] []] ∧
    standaloneWildcard = [.call [] "s.UpstreamProxy.Handler" ["s", "w", "r"] []] ∧
    (paths handlerGetPath).map (fun p => (p.conds, p.calls "ingresses.MatchingPath")) = [([("!ok", true)], [["r"]]), ([("!ok", false)], [])] ∧
    removeMiddlewareHeaders = [.assign "headers" "[]string{ \"Expires\", \"Cache-Control\", \"Pragma\", \"X-Accel-Expires\", \"Vary\", }",
      .loopBegin "_, header := range headers", .call [] "w.Header().Del" ["header"] [], .loopEnd] ∧
    disallowNonNavigational = [.ret [.expr "http.HandlerFunc(func(w http.ResponseWriter, r *http.Request) { if HasSecFetchMetadata(r) && !IsNavigationRequest(r) { span := trace.SpanFromContext(r.Context()) span.SetAttributes(attribute.Bool(\"request.disallowed\", true)) w.Header().Set(\"Content-Type\", \"application/json\") w.WriteHeader(http.StatusUnauthorized) w.Write([]byte(`{\"error\": \"unauthenticated\", \"error_description\": \"this is an interactive endpoint; user-agents must be navigated to this endpoint\", \"error_path\": \"` + r.URL.Path + `\"}`)) return } next.ServeHTTP(w, r) })"]] := ⟨rfl, rfl, rfl, rfl, rfl, rfl, rfl⟩

end Ww.Proofs.GenTie.HelpersWeb
