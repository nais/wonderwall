import Ww.Gen.Dec
import Ww.Model.Cookie
/-!
# Tie G by proof: the retry decision and the counter written by pkg/handler/error.go are the model's `retryStep`
-/
namespace Ww.Proofs.GenTie
open Ww.Model

theorem bne429_cast (n : Nat) : (n != 429) = ((n : Int) != 429) := by
  rw [Bool.eq_iff_iff]
  simp only [bne_iff_ne, ne_eq]
  omega

/-- pkg/handler/error.go: the retry decision and the counter written, from the counter the request carried (C17) -/
theorem retryStep_is_source (c : Option Int) (status : Nat) :
    retryStep c status = (Ww.Gen.Dec.retryCondition c.isSome (c.getD 0) status, Ww.Gen.Dec.nextRetryValue (c.getD 0) c.isSome) := by
  unfold retryStep Ww.Gen.Dec.retryCondition Ww.Gen.Dec.nextRetryValue maxAutoRetry
  cases c <;> simp [Ww.Gen.Consts.maxAutoRetryAttempts] <;> rw [bne429_cast] <;> rfl

end Ww.Proofs.GenTie
