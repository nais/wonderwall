import Ww.Model.HandlerSrc
/-!
# Authentication-level gate and ingress matching of the source (tie G for C01 C13 C20)
-/
namespace Ww.Proofs.GenTie.Ingress
open Ww.Model.HandlerSrc Ww.Gen.Handlers Ww.Gen.Manager

/-- **ACR gate** (C01): enabled exactly when a level is configured — whatever the level is called —, and then the session's acr is validated against the configured value by
    `acr.Validate` (ID-porten order, literal equality otherwise: `Ww.Proofs.GenTie.C03`); a missing session passes here because the token decision is the caller's -/
theorem acr_gate :
    acrNewHandler = [.ret [.expr "&Handler{ Enabled: len(cfg.OpenID.ACRValues) > 0, ExpectedValue: cfg.OpenID.ACRValues, }"]] ∧
    acrHandlerValidate = [.ifBegin "!h.Enabled || sess == nil", .ret [.nil], .ifEnd, .ret [.expr "acr.Validate(h.ExpectedValue, sess.Acr())"]] := ⟨rfl, rfl⟩

/-- **matching ingress** (C13 C04): an ingress matches only when BOTH its host (against Host or X-Forwarded-Host) and its path (the longest configured path prefix of the request)
    are those of ONE configured ingress; otherwise there is no match (and no redirect_uri is built) -/
theorem matching_ingress_shape :
    matchingIngress = [.loopBegin "_, ingress := range i.ingressMap",
      .assign "hostMatch" "ingress.Host() == r.Host || ingress.Host() == r.Header.Get(XForwardedHost)", .assign "pathMatch" "ingress.Path() == i.MatchingPath(r)",
      .ifBegin "hostMatch && pathMatch", .ret [.expr "ingress", .expr "true"], .ifEnd, .loopEnd, .ret [.expr "Ingress{}", .expr "false"]] ∧
    matchingPath = [.assign "reqPath" "r.URL.Path", .assign "result" "\"\"", .loopBegin "_, p := range i.Paths()", .ifBegin "len(p) == 0", .other "continue", .ifEnd,
      .ifBegin "strings.HasPrefix(reqPath, p) && len(p) > len(result)", .assign "result" "p", .ifEnd, .loopEnd, .ret [.expr "result"]] := ⟨rfl, rfl⟩

/-- **a valid ingress** (C20): non-empty, parsable, WITH A HOST, http or https; every other path through `ParseIngress` is an error -/
theorem parse_ingress_paths :
    ((paths parseIngress).filter fun p => p.evs.getLast? = some (.ret [.expr "&Ingress{ URL: u, }", .nil])).map (·.conds) =
      [[("len(ingress) == 0", false), ("err != nil", false), ("len(u.Host) == 0", false), ("err != nil", false)]] ∧
    (paths parseIngress).all (fun p => p.evs.getLast? = some (.ret [.expr "&Ingress{ URL: u, }", .nil]) || p.evs.getLast?.any (fun st => match st with | .ret (.nil :: _) => true | _ => false)) = true ∧
    parseIngress.contains (.call ["err"] "mustScheme" ["u"] []) = true ∧
    mustScheme = [.assign "validSchemes" "[]string{\"http\", \"https\"}", .assign "valid" "false", .loopBegin "_, scheme := range validSchemes", .ifBegin "u.Scheme == scheme",
      .assign "valid" "true", .ifEnd, .loopEnd, .ifBegin "!valid", .ret [.wrap []], .ifEnd, .ret [.nil]] := ⟨rfl, by decide +kernel, by decide +kernel, rfl⟩

end Ww.Proofs.GenTie.Ingress
