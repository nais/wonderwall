import Ww.Model.HandlerSrc
/-!
# What EVERY path through the logout / session handlers of the current source does (tie G for C05 C06 C11 C14)
-/
namespace Ww.Proofs.GenTie.Handlers
open Ww.Model.HandlerSrc Ww.Gen.Handlers Ww.Gen.Manager

private def lookupFailed := "err != nil && !errors.Is(err, session.ErrNotFound) && !errors.Is(err, session.ErrInvalid)"
private def deleteFailed := "err != nil && !errors.Is(err, session.ErrNotFound)"

/-- a path "reports an error" when it calls one of the error responders -/
def errorResponse (p : Path) : Bool := p.called "s.InternalError" || p.called "s.Unauthorized" || p.called "s.BadRequest"

/-- **local logout** (C05 C11 C14): every path that answers 204 looked the session up, did NOT see an unexpected lookup error, deleted the session when there
    was one (and that delete did not fail), and cleared the session cookie with the request's cookie options BEFORE answering; every other path is an error
    response that clears nothing -/
theorem logout_local_paths : (paths logoutLocal).all (fun p =>
    if p.statuses = ["http.StatusNoContent"] then
      p.called "s.SessionManager.Get" && p.took lookupFailed false &&
      (p.took "sess != nil" false || (p.before "s.SessionManager.Delete" "w.WriteHeader" && p.took deleteFailed false)) &&
      p.calls "cookie.Clear" = [["w", "cookie.Session", "s.GetCookieOptions(r)"]] && p.before "cookie.Clear" "w.WriteHeader" && !errorResponse p
    else p.statuses = [] && errorResponse p && !p.called "cookie.Clear" && (p.took lookupFailed true || p.took deleteFailed true)) = true := by decide +kernel

/-- **self-initiated logout**: the redirect to the provider's end-session endpoint is reached only without lookup / delete failure, after the delete (when there
    was a session) and after the session cookie was cleared with the request's cookie options; otherwise an error response -/
theorem logout_paths : (paths logout).all (fun p =>
    if p.called "http.Redirect" then
      p.took lookupFailed false && (p.took "sess != nil" false || (p.before "s.SessionManager.Delete" "http.Redirect" && p.took deleteFailed false)) &&
      (p.calls "cookie.Clear").contains ["w", "cookie.Session", "s.GetCookieOptions(r)"] && p.before "cookie.Clear" "http.Redirect" && !errorResponse p &&
      p.calls "http.Redirect" = [["w", "r", "logout.SingleLogoutURL(idToken)", "http.StatusFound"]]
    else errorResponse p) = true := by decide +kernel

/-- **front-channel logout**: the session cookie is cleared on EVERY path, first thing; 200 is answered only after DeleteForExternalID(sid) succeeded;
    a missing sid or a failed delete answers 202 (never 200) -/
theorem front_channel_paths : (paths logoutFrontChannel).all (fun p =>
    (p.calls "cookie.Clear").head? = some ["w", "cookie.Session", "s.GetCookieOptions(r)"] && p.firstIdx "cookie.Clear" = some 0 &&
    (if p.statuses = ["http.StatusOK"] then
       p.took "lfc.MissingSidParameter()" false && p.took "err != nil" false && p.before "s.SessionManager.DeleteForExternalID" "w.WriteHeader" &&
       p.calls "s.SessionManager.DeleteForExternalID" = [["r.Context()", "id"]] && (p.calls "cookie.Clear").contains ["w", "cookie.Retry", "s.GetCookieOptions(r)"]
     else p.statuses = ["http.StatusAccepted"])) = true := by decide +kernel

/-- **logout callback**: clears the logout cookie with the options it was set with, and the retry counter, before redirecting -/
theorem logout_callback_paths : (paths logoutCallback).all (fun p =>
    p.calls "cookie.Clear" = [["w", "cookie.Logout", "s.CookieOptions"], ["w", "cookie.Retry", "s.GetCookieOptions(r)"]] &&
    p.calls "http.Redirect" = [["w", "r", "redirect", "http.StatusFound"]] && p.before "cookie.Clear" "http.Redirect") = true := by decide +kernel

/-- **session info** (C06): metadata is written only when the lookup succeeded or failed with ErrInactive alone ("readable as inactive"); any other lookup
    error goes to the shared error mapping -/
theorem session_info_paths : (paths sessionInfo).all (fun p =>
    if p.called "s.sessionWriteMetadataResponse" then p.took "err != nil && !errors.Is(err, session.ErrInactive)" false && !p.called "handleGetSessionError"
    else p.calls "handleGetSessionError" = [["\"session/info\"", "w", "r", "err"]]) = true := by decide +kernel

/-- **manual refresh** (C06 C08 C11): ANY lookup error (inactive included) goes to the error mapping; a refresh error answers 401 for a provider rejection, an invalid
    or vanished session and 500 otherwise; metadata only after both succeeded -/
theorem session_refresh_paths : (paths sessionRefresh).all (fun p =>
    if p.called "s.sessionWriteMetadataResponse" then
      p.conds.take 2 = [("err != nil", false), ("err != nil", false)] && p.before "s.SessionManager.Get" "s.SessionManager.Refresh" &&
      p.before "s.SessionManager.Refresh" "s.sessionWriteMetadataResponse"
    else if p.called "s.SessionManager.Refresh" then
      (p.statuses = ["http.StatusUnauthorized"] && p.took "errors.Is(err, session.ErrInvalidExternal) || errors.Is(err, session.ErrInvalid) || errors.Is(err, session.ErrNotFound)" true) ||
      (p.statuses = ["http.StatusInternalServerError"])
    else p.calls "handleGetSessionError" = [["\"session/refresh\"", "w", "r", "err"]]) = true := by decide +kernel

/-- the shared lookup-error mapping: cancelled → 499, not found / invalid (ended, timed out, undecryptable) → 401, anything else → 500 — never a success status -/
theorem lookup_error_mapping : (paths handleGetSessionError).map (fun p => (p.conds.filter (·.2)).map (·.1) ++ p.statuses) =
    [["errors.Is(err, context.Canceled)", "499"], ["errors.Is(err, session.ErrNotFound)", "http.StatusUnauthorized"],
     ["errors.Is(err, session.ErrInvalid)", "http.StatusUnauthorized"], ["http.StatusInternalServerError"]] := rfl

/-- **forward-auth**: 204 only when GetSession returned no error; 404 when the feature is off; otherwise 401 / 500 -/
theorem forward_auth_paths : (paths sessionForwardAuth).all (fun p =>
    if p.statuses = ["http.StatusNoContent"] then p.took "!s.Config.Session.ForwardAuth" false && p.took "err != nil" false && p.called "s.GetSession"
    else if p.took "!s.Config.Session.ForwardAuth" true then p.called "http.NotFound" && !p.called "s.GetSession"
    else p.statuses = ["http.StatusUnauthorized"] || p.statuses = ["http.StatusInternalServerError"]) = true := by decide +kernel

/-- which read the handlers use: plain Get when auto-refresh is disabled, GetOrRefresh otherwise; the SSO proxy only ever reads -/
theorem get_session_choice :
    getSession = [.ifBegin "s.Config.AutoRefreshDisabled()", .ret [.expr "s.SessionManager.Get(r)"], .ifEnd, .ret [.expr "s.SessionManager.GetOrRefresh(r)"]] ∧
    proxyGetSession = [.ret [.expr "s.SessionReader.Get(r)"]] := ⟨rfl, rfl⟩

/-- **reverse proxy** (C01 C11 C12): on EVERY path through `ReverseProxy.Handler` the access token is put into the upstream context only when
    `getSessionWithValidToken` returned no error AND the ACR gate did not object; it is the token that function returned; the ID token is added only next to it,
    only when configured, and it is the session's own; an auto-login answer never reaches the upstream; everything else is proxied exactly once -/
theorem proxy_handler_paths : (paths proxyHandler).all (fun p =>
    (if p.called "mw.WithAccessToken" then
       p.took "case err == nil" true && p.took "err != nil" false && p.took "isAuthenticated" true &&
       p.calls "mw.WithAccessToken" = [["ctx", "accessToken"]] &&
       p.evs.contains (.call ["sess", "accessToken", "err"] "getSessionWithValidToken" ["src", "r"] []) &&
       p.before "getSessionWithValidToken" "mw.WithAccessToken" && p.before "src.GetAcrHandler().Validate" "mw.WithAccessToken"
     else true) &&
    (if p.called "mw.WithIdToken" then
       p.called "mw.WithAccessToken" && p.took "rp.IncludeIdToken && sess != nil" true && p.calls "mw.WithIdToken" = [["ctx", "idToken"]] &&
       p.evs.contains (.call ["idToken"] "sess.IDToken" [] [])
     else true) &&
    -- a valid session ALWAYS gets its token: no error, ACR fine, not answered by auto-login ⇒ WithAccessToken
    (if p.took "case err == nil" true && p.took "err != nil" false && !p.called "handleAutologin" then p.called "mw.WithAccessToken" else true) &&
    (if p.called "handleAutologin" then p.returned && !p.called "rp.ServeHTTP" && !p.called "mw.WithAccessToken"
     else p.calls "rp.ServeHTTP" = [["w", "r.WithContext(ctx)"]] && (p.evs.getLast? = some (.call [] "rp.ServeHTTP" ["w", "r.WithContext(ctx)"] [])))) = true := by decide +kernel

/-- … and `getSessionWithValidToken` yields a token only from `Session.AccessToken()` of the session `GetSession` returned, both without error -/
theorem valid_token_paths : (paths getSessionWithValidToken).all (fun p =>
    if p.evs.getLast? = some (.ret [.expr "sess", .expr "accessToken", .nil]) then
      p.conds = [("err != nil", false), ("err != nil", false)] && p.evs.contains (.call ["sess", "err"] "src.GetSession" ["r"] []) &&
      p.evs.contains (.call ["accessToken", "err"] "sess.AccessToken" [] [])
    else p.evs.getLast? = some (.ret [.nil, .expr "\"\"", .expr "err"])) = true := by decide +kernel

/-- **login callback** (C02 C14 C17): the login cookie is cleared first thing on EVERY path; a session is created only after the login cookie was read and
    `Client.LoginCallback` (gate + code redemption + ID-token validation) returned no error; the session cookie is set only after the store write succeeded; the
    redirect goes to the CLEANED referer of the login cookie, after the retry counter was cleared; the raw-token legacy cookie only under its flag (finding F7) -/
theorem login_callback_paths : (paths loginCallback).all (fun p =>
    p.evs.take 2 = [.call ["opts"] "s.GetCookieOptions" ["r"] [], .call [] "cookie.Clear" ["w", "cookie.Login", "opts.WithSameSite(http.SameSiteLaxMode)"] []] &&
    (if p.called "s.SessionManager.Create" then
       p.conds.take 2 = [("err != nil", false), ("err != nil", false)] && p.before "openid.GetLoginCookie" "s.Client.LoginCallback" &&
       p.before "s.Client.LoginCallback" "s.SessionManager.Create" && p.calls "s.SessionManager.Create" = [["r", "tokens", "sessionLifetime"]] &&
       p.calls "s.Client.LoginCallback" = [["r", "loginCookie"]]
     else errorResponse p) &&
    (if p.called "sess.SetCookie" then p.conds.take 3 = [("err != nil", false), ("err != nil", false), ("err != nil", false)] && p.before "s.SessionManager.Create" "sess.SetCookie" else true) &&
    (if p.called "http.Redirect" then
       p.conds.take 4 = [("err != nil", false), ("err != nil", false), ("err != nil", false), ("err != nil", false)] && !errorResponse p &&
       p.calls "http.Redirect" = [["w", "r", "redirect", "http.StatusFound"]] && p.evs.contains (.call ["redirect"] "s.Redirect.Clean" ["r", "loginCookie.Referer"] []) &&
       (p.calls "cookie.Clear").getLast? = some ["w", "cookie.Retry", "s.GetCookieOptions(r)"] && p.before "sess.SetCookie" "http.Redirect"
     else errorResponse p) &&
    (if p.called "cookie.SetLegacyCookie" then p.took "s.Config.LegacyCookie" true else true)) = true := by decide +kernel

/-- **auto-login answer** (C12): a navigation is redirected (302) to the login URL naming the REQUESTED URL; anything else gets 401 with a Location header naming the
    referring page (or the ingress path when there is none) and is never redirected -/
theorem autologin_paths : (paths handleAutologin).all (fun p =>
    if p.took "httpinternal.IsNavigationRequest(r)" true then
      p.evs.contains (.call ["target"] "r.URL.String" [] []) && p.calls "loginURL" = [["target", "\"navigation request detected; redirecting to login...\""]] &&
      p.calls "http.Redirect" = [["w", "r", "location", "http.StatusFound"]] && p.statuses = [] && p.returned
    else
      p.evs.contains (.call ["target"] "r.Referer" [] []) && (p.took "target == \"\"" false || p.evs.contains (.assign "target" "path")) &&
      !p.called "http.Redirect" && p.statuses = ["http.StatusUnauthorized"] &&
      (p.calls "w.Header().Set").head? = some ["\"Location\"", "location"] && p.before "w.Header().Set" "w.WriteHeader") = true := by decide +kernel

-- non-vacuity: each handler has a success path
example : ((paths logoutLocal).filter (·.statuses = ["http.StatusNoContent"])).length = 2 ∧ ((paths logout).filter (·.called "http.Redirect")).length = 4 ∧
    ((paths logoutFrontChannel).filter (·.statuses = ["http.StatusOK"])).length = 1 ∧ ((paths proxyHandler).filter (·.called "mw.WithAccessToken")).length = 12 ∧
    ((paths proxyHandler).filter (·.called "handleAutologin")).length > 0 ∧ ((paths loginCallback).filter (·.called "http.Redirect")).length = 64 ∧
    (paths handleAutologin).length = 5 := by decide +kernel

end Ww.Proofs.GenTie.Handlers
