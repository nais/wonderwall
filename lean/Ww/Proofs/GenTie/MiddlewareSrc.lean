import Ww.Model.HandlerSrc
import Ww.Gen.Provider
/-!
# Ingress middleware and the auto-login pattern list of the source (tie G for C12 C15)

pkg/middleware/ingress.go and pkg/handler/autologin.New, regenerated statement by statement on every run.
-/
namespace Ww.Proofs.GenTie.MiddlewareSrc
open Ww.Model.HandlerSrc Ww.Gen.Provider Ww.Gen.Manager

/-- the ingress middleware puts the matching path and - only when there is one - the matching ingress into the request context, then calls the next handler -/
theorem ingress_middleware_shape : ingressMiddleware =
    [.assign "fn" "func(w http.ResponseWriter, r *http.Request) { ingresses := i.GetIngresses() ctx := r.Context() path := ingresses.MatchingPath(r) ctx = WithPath(ctx, path) matchingIngress, ok := ingresses.MatchingIngress(r) if ok { ctx = WithIngress(ctx, matchingIngress) } next.ServeHTTP(w, r.WithContext(ctx)) }",
     .ret [.expr "http.HandlerFunc(fn)"]] := rfl

/-- the auto-login ignore list: the two defaults first, then the configured paths; empty entries dropped, one trailing slash trimmed (except "/"), duplicates dropped -/
theorem autologin_patterns_shape :
    autologinNew.contains (.loopBegin "_, path := range append(DefaultIgnorePatterns, cfg.AutoLoginIgnorePaths...)") = true ∧
    ((autologinNew.dropWhile (· != .loopBegin "_, path := range append(DefaultIgnorePatterns, cfg.AutoLoginIgnorePaths...)")).takeWhile (· != .loopEnd)).drop 1 =
      [.ifBegin "len(path) == 0", .other "continue", .ifEnd, .ifBegin "path != \"/\"", .call ["path"] "strings.TrimSuffix" ["path", "\"/\""] [], .ifEnd,
       .other "_, found := seen[path]", .ifBegin "!found", .assign "seen[path]" "true", .call ["patterns"] "append" ["patterns", "path"] [], .ifEnd] ∧
    autologinNew.getLast? = some (.ret [.expr "&AutoLogin{ Enabled: cfg.AutoLogin, IgnorePatterns: patterns, cache: sync.Map{}, }", .nil]) := ⟨by decide +kernel, rfl, rfl⟩

end Ww.Proofs.GenTie.MiddlewareSrc
