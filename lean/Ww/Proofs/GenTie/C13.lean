import Ww.Gen.Dec
import Ww.Model.Login
/-!
# Tie G by proof: getAcrParam / getLocaleParam / getPromptParam (pkg/openid/client/login.go) are the model's `acrParam` / `localeParam` / `promptParam`
-/
namespace Ww.Proofs.GenTie
open Ww.Model

/-- pkg/openid/client/login.go:getAcrParam = Model.acrParam (C13) -/
theorem acrParam_is_source (cfg : LoginCfg) (level : String) :
    acrParam cfg level = Ww.Gen.Dec.getAcrParam cfg.acrDefault level cfg.acrSupported := by
  unfold acrParam Ww.Gen.Dec.getAcrParam legacyAcr Ww.Gen.Consts.idportenLegacyLookup
  by_cases hd : cfg.acrDefault = ""
  · simp [hd]
  simp only [hd, beq_iff_eq, if_false]
  -- both sides look the same value up: which one it is does not matter
  generalize (if level = "" then cfg.acrDefault else level) = v
  by_cases h3 : v = "Level3"
  · simp [h3]
  by_cases h4 : v = "Level4"
  · simp [h4]
  simp [h3, h4]

/-- pkg/openid/client/login.go:getLocaleParam = Model.localeParam (C13) -/
theorem localeParam_is_source (cfg : LoginCfg) (locale : String) :
    localeParam cfg locale = Ww.Gen.Dec.getLocaleParam cfg.localeDefault locale cfg.localesSupported := by
  unfold localeParam Ww.Gen.Dec.getLocaleParam
  by_cases hd : cfg.localeDefault = "" <;> simp [hd]
  all_goals (by_cases hl : locale = "" <;> simp [hl])

/-- pkg/openid/client/login.go:getPromptParam = Model.promptParam (C13) -/
theorem promptParam_is_source (p : String) : promptParam p = Ww.Gen.Dec.getPromptParam p := by
  unfold promptParam Ww.Gen.Dec.getPromptParam Ww.Gen.Consts.promptAllowedValues
  by_cases h0 : p = "" <;> simp [h0]
  all_goals (by_cases h1 : p = "login" <;> by_cases h2 : p = "select_account" <;> simp_all)

end Ww.Proofs.GenTie
