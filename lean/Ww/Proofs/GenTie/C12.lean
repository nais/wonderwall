import Ww.Gen.Dec
import Ww.Model.Glob
/-!
# Tie G by proof: AutoLogin.NeedsLogin (pkg/handler/autologin/autologin.go) decides as the model's `needsLogin` does
-/
namespace Ww.Proofs.GenTie
open Ww.Model

/-- the path auto-login matches against, as the source computes it: rooted, cleaned by `path.Clean` (parameter), without a trailing slash -/
def sourceLoginPath (clean : String → String) (urlPath : String) : String :=
  let p := if !(urlPath.startsWith "/") then "/" ++ urlPath else urlPath
  let p := clean p
  if p != "/" then Ww.Gen.Dec.trimSuffix p "/" else p

/-- pkg/handler/autologin/autologin.go:NeedsLogin has the decision structure of Model.needsLogin (C12): false for authenticated requests and when disabled,
    otherwise true exactly when NO ignore pattern matches the normalised path - for any `path.Clean` and any matcher (their string-level behaviour is
    tied by the c12 driver against path.Clean / doublestar; the memo cache is dropped by the translator, i.e. assumed transparent) -/
theorem needsLogin_is_source (enabled : Bool) (patterns : List String) (urlPath : String) (auth : Bool) (clean : String → String) (gm : String → String → Bool) :
    Ww.Gen.Dec.needsLogin enabled patterns urlPath auth clean gm =
      (if auth || !enabled then false else !(patterns.any fun p => gm p (sourceLoginPath clean urlPath))) := by
  unfold Ww.Gen.Dec.needsLogin sourceLoginPath
  dsimp only
  -- the same two tests on both sides; the source writes `if b then false else true` for `!b`
  cases List.any patterns _ <;> cases (auth || !enabled) <;> rfl

/-- hence: an unauthenticated request passes auto-login only if some configured pattern matches the normalised path -/
theorem source_passes_only_if_ignored (patterns : List String) (urlPath : String) (clean : String → String) (gm : String → String → Bool)
    (h : Ww.Gen.Dec.needsLogin true patterns urlPath false clean gm = false) :
    ∃ p ∈ patterns, gm p (sourceLoginPath clean urlPath) = true := by
  rw [needsLogin_is_source] at h
  simpa using h

end Ww.Proofs.GenTie
