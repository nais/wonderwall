import Ww.Model.HandlerSrc
import Ww.Gen.Provider
/-!
# The key set of the source (tie G for C03 "a key currently published by the configured provider"; start-up for C20)

`JwksProvider.GetPublicJwkSet`, `RefreshPublicJwkSet`, `NewJwksProvider` and the key-set mutator, regenerated statement by statement from
pkg/openid/provider/provider.go on every run.
-/
namespace Ww.Proofs.GenTie.Jwks
open Ww.Model.HandlerSrc Ww.Gen.Provider Ww.Gen.Manager

private def lastRet (p : Path) : Option (List MgVal) := match p.evs.getLast? with
  | some (.ret v) => some v
  | _ => none

/-- **where keys come from**: always the cache entry of the CONFIGURED provider's `jwks_uri`; a forced refresh re-fetches that same URI, at most once per
    minimum interval (otherwise the cached set), under the provider's own mutex; a failure is an error, never an empty or stale-by-default set -/
theorem jwks_paths :
    (paths jwksGet).map (fun p => (p.conds, lastRet p)) =
      [([("err != nil", true)], some [.nil, .wrap ["err"]]), ([("err != nil", false)], some [.expr "&set", .nil])] ∧
    jwksGet.take 2 = [.call ["url"] "p.config.JwksURI" [] [], .call ["set", "err"] "p.jwksCache.Get" ["ctx", "url"] []] ∧
    (paths jwksRefresh).map (fun p => (p.conds, lastRet p)) =
      [([("diff < JwkMinimumRefreshInterval", true)], some [.expr "p.GetPublicJwkSet(ctx)"]),
       ([("diff < JwkMinimumRefreshInterval", false), ("err != nil", true)], some [.nil, .wrap ["err"]]),
       ([("diff < JwkMinimumRefreshInterval", false), ("err != nil", false)], some [.expr "&set", .nil])] ∧
    jwksRefresh.take 3 = [.call [] "p.jwksLock.Lock" [] [], .deferCalls ["p.jwksLock.Unlock"], .call ["diff"] "time.Since" ["p.jwksLock.lastRefresh"] []] ∧
    (paths jwksRefresh).all (fun p => if p.took "diff < JwkMinimumRefreshInterval" false then
        p.evs.contains (.call ["p.jwksLock.lastRefresh"] "time.Now" [] []) && p.evs.contains (.call ["url"] "p.config.JwksURI" [] []) &&
        p.calls "p.jwksCache.Refresh" = [["ctx", "url"]] else !p.called "p.jwksCache.Refresh") = true := ⟨rfl, rfl, rfl, rfl, by decide +kernel⟩

/-- **start-up**: the provider's `jwks_uri` is registered with the key-set mutator and fetched once before the provider object exists; either failing is an error
    (the process does not start without a key set - C20) -/
theorem new_jwks_provider_paths : (paths newJwksProvider).all (fun p =>
    match lastRet p with
    | some [.expr "&JwksProvider{ config: providerCfg, jwksCache: cache, jwksLock: &jwksLock{}, }", .nil] =>
      p.conds.map (·.2) = [false, false] && p.calls "cache.Register" = [["uri", "jwk.WithPostFetcher(keySetMutator(providerCfg))"]] &&
      p.calls "cache.Refresh" = [["ctx", "uri"]] && p.before "cache.Register" "cache.Refresh" &&
      p.evs.contains (.call ["uri"] "providerCfg.JwksURI" [] []) && p.evs.contains (.call ["providerCfg"] "openidCfg.Provider" [] [])
    | some [.nil, .wrap ["err"]] => p.conds.getLast? = some ("err != nil", true)
    | _ => false) = true := by decide +kernel

/-- **never 'none', never a guessed family**: the mutator touches only keys WITHOUT an `alg` and gives them the configured ID-token signing algorithm (which start-up
    requires to be a JWA signature algorithm the provider supports - `GenTie.Startup`); a key that states its algorithm keeps it -/
theorem key_set_mutator_shape : keySetMutator =
    [.ret [.expr "jwk.PostFetchFunc(func(uri string, set jwk.Set) (jwk.Set, error) { for i := 0; i < set.Len(); i++ { key, ok := set.Key(i) if !ok || key.Algorithm().String() != \"\" { continue } err := key.Set(jwk.AlgorithmKey, cfg.IDTokenSigningAlg()) if err != nil { return nil, fmt.Errorf(\"setting key algorithm: %w\", err) } } return set, nil })"]] := rfl

end Ww.Proofs.GenTie.Jwks
