import Ww.Model.Callback
/-!
# C02 — Login callback creates a session only for the login this browser itself started
-/
namespace Ww.Proofs.C02
open Ww.Model

/-- leaving a guard whose answer is not the one observed -/
theorem of_ite_eq {α} {p : Prop} [Decidable p] {x y z : α} (h : (if p then x else y) = z) (hx : x ≠ z) : ¬p ∧ y = z := by
  by_cases hp : p
  · exact absurd (by simpa [hp] using h) hx
  · exact ⟨hp, by simpa [hp] using h⟩

/-- **C02 (gate).** The authorization code is sent to the provider only if the request carries an authentic login cookie MINTED BY Login
    (not another cookie type), carries no error parameter, its state is present and equals the cookie's, its iss equals the issuer whenever the
    provider advertises issuer identification — and then the code is redeemed with exactly the verifier and redirect URI sealed in that cookie. -/
theorem gate (cfg : CbCfg) (ck : CookieIn) (q : CbQuery) (code v ru : String) (c : LoginCookie)
    (h : callbackGate cfg ck q = .redeem code v ru c) :
    ck = .authentic (.login c) ∧ q.error = "" ∧ q.state ≠ "" ∧ q.state = c.state ∧ (cfg.issSupported = true → q.iss = cfg.issuer) ∧
    code = q.code ∧ v = c.verifier ∧ ru = c.redirectUri ∧ c.verifier ≠ "" ∧ c.nonce ≠ "" ∧ c.redirectUri ≠ "" := by
  cases ck with
  | absent | undecryptable => cases h
  | authentic m =>
    cases m with
    -- a logout or session cookie decoded as a login cookie is incomplete
    | logout st rt | session => simp [callbackGate, Minted.asLoginCookie, LoginCookie.complete] at h
    | login c' =>
      -- `redeem` is the last of five branches: none of the four guards before it fired
      simp only [callbackGate, Minted.asLoginCookie] at h
      obtain ⟨h1, h⟩ := of_ite_eq h nofun
      obtain ⟨h2, h⟩ := of_ite_eq h nofun
      obtain ⟨h3, h⟩ := of_ite_eq h nofun
      obtain ⟨h4, h⟩ := of_ite_eq h nofun
      cases h
      simp [LoginCookie.complete] at h1 h2 h3 h4
      exact ⟨rfl, h2, h3.1, h3.2, fun hi => (h4 hi).2, rfl, rfl, rfl, h1.1.1.2, h1.1.2, h1.2⟩

/-- **C02 (closed).** Whenever any browser-side check fails, no back-channel call is made at all -/
theorem closed (cfg : CbCfg) (ck : CookieIn) (q : CbQuery)
    (h : ck = .absent ∨ ck = .undecryptable ∨ q.error ≠ "" ∨ q.state = "" ∨ (∃ m, ck = .authentic m ∧ q.state ≠ m.asLoginCookie.state) ∨
         (cfg.issSupported = true ∧ q.iss ≠ cfg.issuer) ∨ (∃ st rt, ck = .authentic (.logout st rt)) ∨ ck = .authentic .session) :
    ∀ code v ru c, callbackGate cfg ck q ≠ .redeem code v ru c := by
  intro code v ru c hr
  obtain ⟨rfl, g2, g3, g4, g5, -⟩ := gate cfg ck q code v ru c hr
  rcases h with h | h | h | h | ⟨m, hm, hs⟩ | ⟨hi, hq⟩ | ⟨st, rt, h⟩ | h
  · cases h
  · cases h
  · exact h g2
  · exact g3 h
  · cases hm; exact hs g4
  · exact hq (g5 hi)
  · cases h
  · cases h

/-- two concurrent attempts: attempt i's cookie with attempt j's state makes no call (states of distinct attempts differ: C13) -/
theorem crossed_attempts (cfg : CbCfg) (ci cj : LoginCookie) (hne : ci.state ≠ cj.state) (q : CbQuery) (hq : q.state = cj.state) :
    ∀ code v ru c, callbackGate cfg (.authentic (.login ci)) q ≠ .redeem code v ru c :=
  closed cfg _ q (.inr (.inr (.inr (.inr (.inl ⟨.login ci, rfl, fun h => hne (h.symm.trans hq)⟩)))))

-- non-vacuity: the genuine case does redeem, with the cookie's verifier
example : callbackGate { issSupported := true, issuer := "https://idp" } (.authentic (.login { state := "s", nonce := "n", verifier := "v", redirectUri := "https://app/oauth2/callback" }))
    { state := "s", code := "c", iss := "https://idp" } =
    .redeem "c" "v" "https://app/oauth2/callback" { state := "s", nonce := "n", verifier := "v", redirectUri := "https://app/oauth2/callback" } := by decide +kernel
-- the cookie-type confusion: a logout cookie's ciphertext under the login-cookie name never reaches the provider
example : callbackGate {} (.authentic (.logout "s" "/x")) { state := "s", code := "attacker-code" } = .error := by decide

end Ww.Proofs.C02
