import Ww.Model.Glob
import Ww.Proofs.Sys
/-!
# C12 — With auto-login on, only ignored paths reach the upstream unauthenticated

`Matches` is the documented pattern semantics, stated declaratively; the executable matcher is proved equal to it for
all patterns and all paths. The auto-login decision is then a statement about `Matches` on the cleaned path.
-/
namespace Ww.Proofs.C12
open Ww.Model

/-- one segment: `*` stands for any run of characters of that segment (it cannot cross a `/`: segments contain none) -/
inductive SegMatches : List Char → List Char → Prop where
  | nil : SegMatches [] []
  | star (p pre n full : List Char) : full = pre ++ n → SegMatches p n → SegMatches ('*' :: p) full
  | char (c : Char) (p n : List Char) : c ≠ '*' → SegMatches p n → SegMatches (c :: p) (c :: n)

/-- whole pattern: a `**` segment spans zero or more whole segments; any other segment matches exactly one segment -/
inductive Matches : List Seg → List Seg → Prop where
  | nil : Matches [] []
  | globstar (ps pre n full : List Seg) : full = pre ++ n → Matches ps n → Matches (globstar :: ps) full
  | seg (p : Seg) (ps : List Seg) (s : Seg) (ns : List Seg) : p ≠ globstar → SegMatches p s → Matches ps ns → Matches (p :: ps) (s :: ns)

theorem segMatch_correct (p n : List Char) : segMatch p n = true ↔ SegMatches p n := by
  -- each direction by the induction that only ever builds: the matcher's recursion on the pattern, then the derivation
  constructor
  · induction p generalizing n with
    | nil => cases n <;> simp [segMatch]; exact .nil
    | cons c p ih =>
      unfold segMatch
      split
      · subst c
        intro h
        obtain ⟨pre, s, heq, hs⟩ := (any_suffixes _ _).mp h
        exact .star p pre s n heq (ih s hs)
      · cases n with
        | nil => simp
        | cons d n => simp only [Bool.and_eq_true, beq_iff_eq]; rintro ⟨rfl, h⟩; exact .char c p n ‹¬c = '*'› (ih n h)
  · intro h
    induction h with
    | nil => rfl
    | star p pre n full heq _ ih => simpa [segMatch] using (any_suffixes _ _).mpr ⟨pre, n, heq, ih⟩
    | char c p n hne _ ih => simp only [segMatch, if_neg hne, Bool.and_eq_true, beq_iff_eq, ih, and_self]

/-- **glob correctness**: the executable matcher decides exactly the documented relation, for every pattern and every path -/
theorem globMatch_correct (ps ns : List Seg) : globMatch ps ns = true ↔ Matches ps ns := by
  constructor
  · induction ps generalizing ns with
    | nil => cases ns <;> simp [globMatch]; exact .nil
    | cons p ps ih =>
      unfold globMatch
      split
      · subst p
        intro h
        obtain ⟨pre, s, heq, hs⟩ := (any_suffixes _ _).mp h
        exact .globstar ps pre s ns heq (ih s hs)
      · cases ns with
        | nil => simp
        | cons s ns => simp only [Bool.and_eq_true]; exact fun ⟨h1, h2⟩ => .seg p ps s ns ‹¬p = globstar› ((segMatch_correct p s).mp h1) (ih ns h2)
  · intro h
    induction h with
    | nil => rfl
    | globstar ps pre n full heq _ ih => simpa [globMatch] using (any_suffixes _ _).mpr ⟨pre, n, heq, ih⟩
    | seg p ps s ns hne hs _ ih => simp only [globMatch, if_neg hne, Bool.and_eq_true, (segMatch_correct p s).mpr hs, ih, and_self]

/-- `*` stays within one path segment: a pattern without a `**` segment matches only paths with the same number of segments -/
theorem star_within_segment (ps ns : List Seg) (h : Matches ps ns) (hno : ∀ p ∈ ps, p ≠ globstar) : ps.length = ns.length := by
  induction h with
  | nil => rfl
  | globstar ps pre n full _ _ _ => exact absurd rfl (hno globstar List.mem_cons_self)
  | seg p ps s ns _ _ _ ih => simp; exact ih (fun q hq => hno q (List.mem_cons_of_mem _ hq))

/-- `**` spans segments: a trailing `**` matches everything below (and including) the prefix it follows -/
theorem trailing_globstar (ps pre ns : List Seg) (h : Matches ps pre) : Matches (ps ++ [globstar]) (pre ++ ns) := by
  induction h with
  | nil => exact .globstar [] ns [] ns (by simp) .nil
  | globstar ps pre n full heq _ ih => exact .globstar _ pre (n ++ ns) _ (by simp [heq]) ih
  | seg p ps s ns' hp hs _ ih => exact .seg p _ s _ hp hs ih

/-- without a prefix: `**` alone matches every path -/
theorem globstar_spans (ns : List Seg) : Matches [globstar] ns :=
  trailing_globstar [] [] ns .nil

/-- `NeedsLogin` for an unauthenticated request with auto-login on, in terms of the documented relation -/
theorem needsLogin_iff (patterns : List (List Char)) (urlPath : List Char) :
    needsLogin true patterns urlPath false = false ↔ ∃ p ∈ patterns, Matches (splitSlash p) (splitSlash (loginPath urlPath)) := by
  simp [needsLogin, matchStr, globMatch_correct]

/-- **C12 (decision).** With auto-login on, an unauthenticated request is let through only if some configured pattern matches,
    in the documented sense, the request path after `path.Clean` (dot segments, doubled and trailing slashes removed) -/
theorem unauthenticated_passes_only_if_ignored (patterns : List (List Char)) (urlPath : List Char)
    (h : needsLogin true patterns urlPath false = false) :
    ∃ p ∈ patterns, Matches (splitSlash p) (splitSlash (loginPath urlPath)) :=
  (needsLogin_iff patterns urlPath).mp h

/-- and conversely a matching pattern always lets the request through untouched by auto-login -/
theorem ignored_passes (patterns : List (List Char)) (urlPath : List Char) (p : List Char) (hp : p ∈ patterns)
    (hm : Matches (splitSlash p) (splitSlash (loginPath urlPath))) : needsLogin true patterns urlPath false = false :=
  (needsLogin_iff patterns urlPath).mpr ⟨p, hp, hm⟩

/-- the path that is matched never contains a dot segment: `/public/../admin` is matched as `/admin` -/
theorem matched_path_has_no_dot_segments (urlPath : List Char) :
    ∃ segs, loginPath urlPath = '/' :: joinSlash segs ∧ ∀ s ∈ segs, isDotSeg s = false := by
  unfold loginPath cleanRootedStr
  exact ⟨_, rfl, cleanRooted_nodot _⟩

/-- handler level (Ww.Model.proxy): with auto-login on, a request that is NOT authenticated reaches the upstream only if `ignored` -/
theorem proxy_forwards_unauthenticated_only_if_ignored (cfg : Cfg) (ck : CookieSt) (st : StoreSt) (plan : IdpPlan) (a r : String)
    (ign : Bool) (now : Int) (hal : cfg.autoLogin = true)
    (hf : (proxy cfg ck st plan a r ign now).forwarded = true) (hu : (proxy cfg ck st plan a r ign now).authenticated = false) : ign = true := by
  rcases Sys.proxyF_cases cfg {} ck st plan a r ign now _ (Sys.getSessionF_nofault ..) _ (Sys.proxyF_nofault ..) with ⟨_, _, _, _, _, _, h⟩ | h <;> rw [h] at hf hu
  · cases hu
  · simpa [hal] using hf

-- the documented examples of docs/configuration.md (tests, labelled as tests)
example : matchStr "/public/**".toList "/public".toList = true ∧ matchStr "/public/**".toList "/public/a/b".toList = true ∧
          matchStr "/public/*".toList "/public".toList = false ∧ matchStr "/public/*".toList "/public/a/b".toList = false ∧
          matchStr "/any*".toList "/anything".toList = true ∧ matchStr "/any*".toList "/any/thing".toList = false ∧
          matchStr "/static/**/*.js".toList "/static/bundle.js".toList = true ∧ matchStr "/static/**/*.js".toList "/static/min/some.css".toList = false := by decide +kernel
-- the dot-segment bypass is closed: `/public/../admin` is matched as `/admin`
example : needsLogin true ["/public/**".toList] "/public/../admin".toList false = true := by decide +kernel
example : needsLogin true ["/public/**".toList] "/public/x/../y/".toList false = false := by decide +kernel

end Ww.Proofs.C12
