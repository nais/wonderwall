import Ww.Model.Router
import Ww.Proofs.Sys
import Ww.Gen.Facts
/-!
# C16 — SSO proxy is a read-only delegate; SSO server trusts only its own domain
-/
namespace Ww.Proofs.C16
open Ww.Model Ww.Gen.Facts

/-- a list that starts with `pre`, ends with `suf` and is long enough for both is `pre ++ mid ++ suf` -/
theorem exists_mid_of_prefix_suffix {α} {pre suf o : List α} (hp : pre <+: o) (hs : suf <:+ o) (hl : pre.length + suf.length ≤ o.length) :
    ∃ mid, o = pre ++ (mid ++ suf) := by
  obtain ⟨rest, rfl⟩ := hp
  obtain ⟨mid, rfl⟩ := List.suffix_of_suffix_length_le hs (List.suffix_append pre rest) (by simp at hl; omega)
  exact ⟨mid, rfl⟩

/-- **CORS.** Whatever `Origin` string arrives, credentialed access is granted only if it is (case-insensitively) `https://` followed by
    the SSO domain itself or by something ending in `.` + the SSO domain. In particular: https only, no port, no look-alike suffix
    (`evil-example.com`), no prefix trick (`example.com.evil.io`). -/
theorem cors_only_own_domain (ssoDomain origin : List Char) (h : corsAllows ssoDomain origin = true) :
    ∃ host, lower origin = "https://".toList ++ host ∧
      (host = lower (trimLeadingDot ssoDomain) ∨ ∃ sub, host = sub ++ '.' :: lower (trimLeadingDot ssoDomain)) := by
  unfold corsAllows at h
  simp only [Bool.or_eq_true, Bool.and_eq_true, beq_iff_eq, decide_eq_true_eq] at h
  rcases h with h | ⟨⟨hlen, hpre⟩, hsuf⟩
  · exact ⟨_, h, .inl rfl⟩
  · obtain ⟨sub, hsub⟩ := exists_mid_of_prefix_suffix (List.isPrefixOf_iff_prefix.mp hpre) (List.isSuffixOf_iff_suffix.mp hsuf) hlen
    exact ⟨_, hsub, .inr ⟨sub, rfl⟩⟩

/-- http origins, other domains and look-alikes are refused (tests on concrete strings) -/
example : corsAllows "example.com".toList "http://example.com".toList = false ∧
          corsAllows ".example.com".toList "https://evil-example.com".toList = false ∧
          corsAllows "example.com".toList "https://example.com.evil.io".toList = false ∧
          corsAllows "example.com".toList "https://app.example.com:8443".toList = false ∧
          corsAllows ".Example.com".toList "https://APP.example.com".toList = true := by decide

/-- **SSO proxy, structurally** (over the regenerated facts): the proxy type holds a session *Reader* only — no session manager, no OpenID
    client, no crypter for minting — and its constructor builds neither a manager nor a client. -/
theorem proxy_has_no_writer :
    ssoProxyFields.all (fun (_, ty) => !(["session.Manager", "session.Writer", "session.Store", "*openidclient.Client", "openidclient.Client"].contains ty)) = true ∧
    (ssoProxyCalls.all fun (_, calls) => calls.all fun c =>
      !(["session.NewManager", "openidclient.NewClient", "session.NewStore", "session.NewRedis", "session.NewMemory"].contains c)) = true := by decide +kernel

/-- no method of the SSO proxy calls a store-mutating or provider-contacting operation by name -/
theorem proxy_methods_read_only :
    (ssoProxyCalls.all fun (_, calls) => calls.all fun c =>
      !(c.endsWith ".Create" || c.endsWith ".Delete" || c.endsWith ".DeleteForExternalID" || c.endsWith ".Refresh" || c.endsWith ".GetOrRefresh" ||
        c.endsWith ".RefreshGrant" || c.endsWith ".AuthCodeGrant" || c.endsWith ".LoginCallback" && c != "url.LoginCallback" || c.endsWith ".Write" || c.endsWith ".Update")) = true := by
  decide +kernel

/-- the SSO server's wildcard route only redirects: it never reaches an upstream proxy -/
theorem server_wildcard_redirects :
    (ssoServerCalls.filter (fun (n, _) => n == "SSOServer.Wildcard")).map (·.2) = [["http.Redirect"]] := by decide +kernel

/-- **SSO proxy, behaviourally** (handler model): a proxied request in SSO-proxy mode never contacts the provider and never changes the store -/
theorem proxy_mode_read_only (cfg : Cfg) (hm : cfg.mode = .ssoProxy) (ck : CookieSt) (st : StoreSt) (plan : IdpPlan) (a r : String) (ign : Bool) (now : Int) :
    (proxy cfg ck st plan a r ign now).contacted = false ∧ (proxy cfg ck st plan a r ign now).store = st := by
  have hg : (getSession cfg ck st plan a r now).contacted = false ∧ (getSession cfg ck st plan a r now).store = st := by
    unfold getSession
    simp [hm]
    split <;> exact ⟨rfl, rfl⟩
  rcases Sys.proxyF_cases cfg {} ck st plan a r ign now _ (Sys.getSessionF_nofault ..) _ (Sys.proxyF_nofault ..) with ⟨_, _, _, _, _, _, h⟩ | h <;>
    rw [h] <;> exact hg

end Ww.Proofs.C16
