import Ww.Model.Cookie
import Ww.Gen.Cookies
/-!
# C14 — Cookies carry safe attributes and are cleared with the scope they were set with
-/
namespace Ww.Proofs.C14
open Ww.Model Ww.Gen.Cookies

/-- every cookie made or cleared is HttpOnly, carries the configured Secure flag, and SameSite=None only if the options say so -/
theorem attrs (name v : String) (o : CookieOpts) :
    (makeCookie name v o).httpOnly = true ∧ (clearCookie name o).httpOnly = true ∧
    (makeCookie name v o).secure = o.secure ∧ (clearCookie name o).secure = o.secure ∧
    (makeCookie name v o).sameSite = o.sameSite ∧ (clearCookie name o).sameSite = o.sameSite := ⟨rfl, rfl, rfl, rfl, rfl, rfl⟩

/-- options per mode: Secure is the configured flag; SameSite=None needs SSO mode AND that setting; standalone scopes to the ingress path without
    Domain, SSO to the configured domain with path "/" -/
theorem opts_per_mode (c : CookieCfg) (p : String) :
    (requestOpts c p).secure = c.secure ∧ (baseOpts c).secure = c.secure ∧
    ((requestOpts c p).sameSite = .none → c.sso = true ∧ c.sameSite = .none) ∧
    (c.sso = false → (requestOpts c p).domain = "" ∧ (requestOpts c p).path = p) ∧
    (c.sso = true → (requestOpts c p).domain = c.ssoDomain ∧ (requestOpts c p).path = "/" ∧ requestOpts c p = baseOpts c) := by
  unfold requestOpts baseOpts
  cases c.sso <;> simp

/-- start-up validation: Secure may be off only when every ingress is plain-http localhost -/
theorem insecure_only_on_localhost (secure : Bool) (ings : List (String × String)) (h : secureExemptionOk secure ings = true) (hs : secure = false) :
    ∀ i ∈ ings, i.1 = "http" ∧ i.2.toLower = "localhost" := by
  unfold secureExemptionOk at h
  simp [hs] at h
  intro i hi
  have := h i.1 i.2 hi
  exact ⟨this.2, this.1⟩

def hasInfix (p : List Char) : List Char → Bool
  | [] => p.isEmpty
  | c :: cs => p.isPrefixOf (c :: cs) || hasInfix p cs

/-- the scope-determining part of an options expression: which base object it starts from, provided no modifier touches Path or Domain -/
def scopeClass (opts : String) : String :=
  let o := opts.toList
  if hasInfix "WithPath".toList o || hasInfix "WithDomain".toList o then opts
  else if "s.GetCookieOptions(r)".toList.isPrefixOf o then "request-options"
  else if "s.CookieOptions".toList.isPrefixOf o then "base-options"
  else opts

def isParam (opts : String) : Bool := "param:".toList.isPrefixOf opts.toList

def namesOf : List String := (sites.map fun s => s.2.2.1).eraseDups

/-- **call-site table (regenerated).** For every cookie, all sites that set it and all sites that clear it use the same scope-determining
    options expression (modifiers that only change SameSite are ignored; `param:` sites are the inner helpers the outer sites call).
    A site is (function, "set" / "clear", cookie name, options expression), see `Gen/Cookies`. -/
theorem clear_scope_matches_set_scope :
    namesOf.all (fun n =>
      let scopes := ((sites.filter fun s => s.2.2.1 == n && !isParam s.2.2.2).map fun s => scopeClass s.2.2.2).eraseDups
      scopes.length ≤ 1) = true ∧
    sites.all (fun s => !"unknown:".toList.isPrefixOf s.2.2.1.toList) = true ∧
    -- every cookie that is set somewhere is also cleared somewhere, except the login counter (it lapses with its Max-Age)
    (namesOf.filter fun n => !(sites.any fun s => s.2.2.1 == n && s.2.1 == "clear")) = ["cookie.LoginCount"] := by
  decide +kernel

/-! ## the jar: a clear with the set-time scope really removes the cookie -/

/-- all cookies wonderwall emits for one name carry that name's one scope (domain, path) — the content of `clear_scope_matches_set_scope` -/
def Scoped (scope : String → String × String) (sc : SetCookie) : Prop := (sc.domain, sc.path) = scope sc.name

/-- the jar key (path, host-only flag, domain) that a name's one scope gives a cookie received from `host` -/
def AtScope (host : String) (scope : String → String × String) (c : JarCookie) : Prop :=
  c.path = (scope c.name).2 ∧ c.hostOnly = ((scope c.name).1 == "") ∧
    c.domain = (if (scope c.name).1 != "" then (trimDot (scope c.name).1).toLower else host.toLower)

def JarScoped (host : String) (scope : String → String × String) (jar : List JarCookie) : Prop := ∀ c ∈ jar, AtScope host scope c

theorem toJarCookie_atScope {now : Int} {https : Bool} {host : String} {scope : String → String × String} {sc : SetCookie} {jc : JarCookie}
    (h : toJarCookie now https host sc = some jc) (hs : Scoped scope sc) : jc.name = sc.name ∧ AtScope host scope jc := by
  unfold toJarCookie at h
  split at h; · cases h
  split at h; · cases h
  cases h
  have hd : (scope sc.name).1 = sc.domain := by rw [← show (sc.domain, sc.path) = scope sc.name from hs]
  have hp : (scope sc.name).2 = sc.path := by rw [← show (sc.domain, sc.path) = scope sc.name from hs]
  exact ⟨rfl, by simp only [AtScope, hd, hp, and_self]⟩

/-- two cookies of one name at that name's scope have the same jar key -/
theorem sameKey_of_atScope {host : String} {scope : String → String × String} {a b : JarCookie}
    (ha : AtScope host scope a) (hb : AtScope host scope b) (hn : a.name = b.name) : a.sameKey b = true := by
  obtain ⟨a1, a2, a3⟩ := ha
  obtain ⟨b1, b2, b3⟩ := hb
  simp [JarCookie.sameKey, a1, a2, a3, b1, b2, b3, hn]

theorem store_scoped (host : String) (scope : String → String × String) (jar : List JarCookie) (now : Int) (https : Bool) (sc : SetCookie)
    (hj : JarScoped host scope jar) (hs : Scoped scope sc) : JarScoped host scope (jarStore jar now https host sc) := by
  unfold jarStore
  cases htc : toJarCookie now https host sc with
  | none => exact hj
  | some jc =>
    have hold : ∀ c ∈ jar.filter (fun e => !e.sameKey jc), AtScope host scope c := fun c hc => hj c (List.mem_filter.mp hc).1
    simp only []
    split
    · exact hold
    · intro c hc
      rcases List.mem_append.mp hc with h | h
      · exact hold c h
      · rw [List.mem_singleton.mp h]; exact (toJarCookie_atScope htc hs).2

/-- **C14 (jar).** In a jar that only ever received consistently scoped cookies, processing an accepted clearing cookie for `n` leaves no cookie named `n` -/
theorem clear_removes (host : String) (scope : String → String × String) (jar : List JarCookie) (now : Int) (https : Bool) (sc : SetCookie)
    (hj : JarScoped host scope jar) (hs : Scoped scope sc) (hdel : isDelete sc = true) (hacc : (toJarCookie now https host sc).isSome = true) :
    ∀ c ∈ jarStore jar now https host sc, c.name ≠ sc.name := by
  unfold jarStore
  cases htc : toJarCookie now https host sc with
  | none => simp [htc] at hacc
  | some jc =>
    simp only [hdel, if_true]
    intro c hc hname
    obtain ⟨hmem, hk⟩ := List.mem_filter.mp hc
    obtain ⟨hn, hjc⟩ := toJarCookie_atScope htc hs
    simp [sameKey_of_atScope (hj c hmem) hjc (hname.trans hn.symm)] at hk

/-- history form: after any sequence of consistently scoped Set-Cookies that ends with an accepted clear of `n`, the jar holds no cookie named `n` -/
theorem history_clear (host : String) (scope : String → String × String) (now : Int) (https : Bool) (hist : List SetCookie) (last : SetCookie)
    (hh : ∀ sc ∈ hist, Scoped scope sc) (hl : Scoped scope last) (hdel : isDelete last = true) (hacc : (toJarCookie now https host last).isSome = true) :
    ∀ c ∈ jarStore (hist.foldl (fun j sc => jarStore j now https host sc) []) now https host last, c.name ≠ last.name :=
  clear_removes host scope _ now https last
    (List.foldlRecOn hist _ (fun _ hc => nomatch hc) fun j hj sc hsc => store_scoped host scope j now https sc hj (hh sc hsc)) hl hdel hacc

-- non-vacuity: make / clear with the same options are scoped alike, the clear is a delete, and a browser on that host accepts it
example : let o : CookieOpts := { path := "/app", secure := false }
    Scoped (fun _ => ("", "/app")) (makeCookie "s" "v" o) ∧ Scoped (fun _ => ("", "/app")) (clearCookie "s" o) ∧
    isDelete (clearCookie "s" o) = true ∧ (toJarCookie 0 false "host" (clearCookie "s" o)).isSome = true := by
  refine ⟨rfl, rfl, rfl, ?_⟩
  simp [toJarCookie, clearCookie]

end Ww.Proofs.C14
