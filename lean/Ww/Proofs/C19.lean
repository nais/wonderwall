import Ww.Model.Shutdown
import Ww.Gen.Facts
import Ww.Model.ShutdownSrc
/-!
# C19 — Shutdown drains in-flight requests and always terminates in time  (PARTIAL: the protocol arithmetic and ordering are proved; signal delivery,
`http.Server.Shutdown` and the Go scheduler are the runtime, tied by timed runs of the real binary with a stated tolerance)
-/
namespace Ww.Proofs.C19
open Ww.Model

theorem deadline_is_grace (c : ShutdownCfg) : deadline c = c.grace := by unfold deadline shutdownTimeout; omega

theorem lastFinish_ge_wait (c : ShutdownCfg) (rs : List Req) : c.wait ≤ lastFinish c rs :=
  List.foldlRecOn _ _ (Int.le_refl _) fun _ hm _ _ => Int.le_trans hm (Int.le_max_left _ _)

theorem lastFinish_le (c : ShutdownCfg) (rs : List Req) (b : Int) (hb : c.wait ≤ b) (h : ∀ r ∈ rs, accepted c r = true → finish r ≤ b) : lastFinish c rs ≤ b :=
  List.foldlRecOn (motive := (· ≤ b)) _ _ hb fun _ hm r hr => Int.max_le.mpr ⟨hm, h r (List.mem_filter.mp hr).1 (List.mem_filter.mp hr).2⟩

theorem allDrain_iff (c : ShutdownCfg) (rs : List Req) : allDrain c rs = true ↔ ∀ r ∈ rs, r.arrive < c.wait → finish r ≤ c.grace := by
  simp [allDrain, accepted, deadline_is_grace, Decidable.imp_iff_not_or]

/-- **always terminates in time**: the process exits no later than the graceful period after the signal -/
theorem exits_by_deadline (c : ShutdownCfg) (hv : c.wait < c.grace) (rs : List Req) : (exitOf c rs).1 ≤ c.grace := by
  unfold exitOf
  split
  · rename_i h
    exact lastFinish_le c rs c.grace (by omega) fun r hr ha => (allDrain_iff c rs).mp h r hr (by simpa [accepted] using ha)
  · exact Int.le_of_eq (deadline_is_grace c)

/-- keeps serving during the wait-before period, refuses afterwards -/
theorem accepts_during_wait (c : ShutdownCfg) (r : Req) : (outcome c r ≠ .refused ↔ r.arrive < c.wait) := by
  unfold outcome accepted
  by_cases h : r.arrive < c.wait <;> simp [h]
  split <;> simp

/-- **no accepted request is cut off while time remains** -/
theorem drains (c : ShutdownCfg) (r : Req) (ha : r.arrive < c.wait) (hf : finish r ≤ c.grace) : outcome c r = .complete := by
  unfold outcome accepted
  simp [ha, deadline_is_grace, hf]

/-- exits successfully as soon as the in-flight requests have completed (never before the wait-before period is over) -/
theorem prompt_successful_exit (c : ShutdownCfg) (rs : List Req) (h : ∀ r ∈ rs, r.arrive < c.wait → finish r ≤ c.grace) :
    (exitOf c rs).2 = true ∧ (exitOf c rs).1 = lastFinish c rs ∧ c.wait ≤ (exitOf c rs).1 := by
  rw [exitOf, if_pos ((allDrain_iff c rs).mpr h)]
  exact ⟨rfl, rfl, lastFinish_ge_wait c rs⟩

/-- otherwise it exits anyway, at the deadline, with a failure status -/
theorem forced_exit (c : ShutdownCfg) (rs : List Req) (r : Req) (hr : r ∈ rs) (ha : r.arrive < c.wait) (hl : finish r > c.grace) :
    exitOf c rs = (c.grace, false) := by
  have hd : allDrain c rs = false := by
    rw [Bool.eq_false_iff, ne_eq, allDrain_iff]
    intro hall
    have := hall r hr ha
    omega
  simp [exitOf, hd, deadline_is_grace]

/-- **tie to the source (regenerated facts)**: the timeout handed to Shutdown is graceful − wait-before; Start registers the signal handler, sleeps, calls
    Shutdown (never Close) and has a fatal exit for the deadline -/
theorem source_shape :
    Ww.Gen.Facts.shutdownTimeoutExpr = "cfg.ShutdownGracefulPeriod - cfg.ShutdownWaitBeforePeriod" ∧
    (Ww.Gen.Facts.serverCalls.any fun (n, calls) => n == "Start" && calls.contains "signal.Notify" && calls.contains "time.Sleep" && calls.contains "server.Shutdown" &&
      calls.contains "log.Fatalf" && !calls.contains "server.Close") = true := by decide +kernel

/-- **tie to the source, semantic (regenerated op list)**: interpreting the statements of the signal goroutine in SOURCE ORDER, for every setting of the two
    periods, the listeners are closed exactly `wait-before` after the signal and the forced (fatal, non-zero) exit is armed for exactly `graceful` after the
    signal - the two parameters of the protocol model above. (The clock of the deadline starts after the wait: sleeping after arming it, a timeout of the
    full graceful period, draining under another context, `Close` instead of `Shutdown`, or no fatal exit on the deadline all make this fail.) -/
theorem source_timing (c : ShutdownCfg) :
    Ww.Model.ShutdownSrc.timing c Ww.Gen.Shutdown.shutdownOps = some (c.wait, deadline c) := by
  simp [Ww.Model.ShutdownSrc.timing, Ww.Model.ShutdownSrc.runOps, Ww.Gen.Shutdown.shutdownOps, Ww.Model.ShutdownSrc.stepOp, Ww.Model.ShutdownSrc.evalE,
    List.lookup, deadline, shutdownTimeout]

/-- the termination signals Kubernetes and a terminal send are both handled -/
theorem signals_registered : Ww.Gen.Shutdown.signals.contains "syscall.SIGTERM" = true ∧ Ww.Gen.Shutdown.signals.contains "syscall.SIGINT" = true := by decide

-- non-vacuity
example : exitOf ⟨300, 1200⟩ [⟨-200, 400⟩, ⟨100, 900⟩, ⟨350, 10⟩] = (1000, true) ∧ outcome ⟨300, 1200⟩ ⟨350, 10⟩ = .refused ∧
          exitOf ⟨300, 1200⟩ [⟨100, 2000⟩] = (1200, false) ∧ outcome ⟨300, 1200⟩ ⟨100, 2000⟩ = .cut := by decide

end Ww.Proofs.C19
